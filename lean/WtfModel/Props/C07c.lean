import WtfModel.Props.C07b
import WtfModel.Model.Modelled
import WtfModel.Proofs.GoSort
import WtfModel.Proofs.GoSortLex

/-!
  C07, continued — the premise `SortOK` (the fuzzy library's final `sort.Stable` yields a score-sorted permutation) is
  discharged for every parameter set whose `fuzzySort` is `GoSort.fuzzyStable`, the transliteration of Go's `sort.Stable`
  run with the library's non-strict `Less` (`Model/GoSort.lean`; proofs `Proofs/GoSort.lean`; tie: correspondence domain
  `gosort`, and the `fz` line of every search-family case).  `Wtf.Search.modelledTuning … GoSort.fuzzyStable …` — the
  parameter set the search driver runs against the real code — is such a parameter set by definition
  (`sortOK_modelledTuning`).

  The theorems below are the C07 theorems that assumed `SortOK`, with `T.fuzzySort = GoSort.fuzzyStable` in its place;
  `FoldOK` (no Unicode table entry folds to 0) remains a premise.
-/
namespace Wtf.C07
open Wtf.Filters Wtf.Search Wtf.Fuzzy Wtf.Utf8

variable {S : Type} [ScoreOps S]

omit [ScoreOps S] in
/-- the modelled `sort.Stable` satisfies the sort contract -/
theorem sortOK_of_goStable (T : Tuning S) (h : T.fuzzySort = GoSort.fuzzyStable) : SortOK T :=
  fun ms => h ▸ GoSort.fuzzyStable_contract ms

/-- … in particular the parameter set of the end-to-end theorem and of the search driver -/
theorem sortOK_modelledTuning (idf : Nat → Nat → S) (host : Bytes) (ri : RuneInfo) (normQ : Bytes → Bytes) (sqrt : S → S)
    (minSim : S) (idx? : Option (Tfidf.Index S)) (db : Db) :
    SortOK (modelledTuning idf host ri normQ GoSort.fuzzyStable sqrt minSim idx? db) :=
  sortOK_of_goStable _ rfl

/-- **Every fallback result is a genuine match** (`genuine` without the sort premise) -/
theorem genuine_sorted (T : Tuning S) (hf : FoldOK T.ri) (hs : T.fuzzySort = GoSort.fuzzyStable) (db : Db) (q : Bytes)
    (o : Opts S) (r : List (Nat × S))
    (hoff : search T db q { o with useFuzzy := false } = .ok [])
    (hon : search T db q { o with useFuzzy := true } = .ok r) :
    ∀ x ∈ r, ∃ c sc idxs, db[x.1]? = some c ∧
      matchOne T.ri (T.normQ q) (fuzzyTarget c) = .ok (some (sc, idxs)) ∧
      Occurs T.ri.eqFold (runes (T.normQ q)) (runes (fuzzyTarget c)) ∧
      (o.fuzzyThreshold ≠ 0 → o.fuzzyThreshold ≤ sc) ∧
      x.2 = normalizeFuzzy sc ∧
      passes T.ri T.host o.filter c = true :=
  genuine T hf (sortOK_of_goStable T hs) db q o r hoff hon

/-- **Best match first** (`best_first` without the sort premise): the fallback's answer is the image, under the score
    normalisation, of a list of (command, library score) pairs with non-increasing library score -/
theorem best_first_sorted (T : Tuning S) (hs : T.fuzzySort = GoSort.fuzzyStable) (db : Db) (q : Bytes) (o : Opts S)
    (r : List (Nat × S))
    (hoff : search T db q { o with useFuzzy := false } = .ok [])
    (hon : search T db q { o with useFuzzy := true } = .ok r) :
    ∃ ms : List (Nat × Int), r = ms.map (fun m => (m.1, normalizeFuzzy m.2)) ∧
      ms.Pairwise (fun a b => a.2 ≥ b.2) :=
  best_first T (sortOK_of_goStable T hs) db q o r hoff hon

/-- … hence by non-increasing reported score, with no premise at all besides the score laws
    (`best_first_reported` without the sort premise) -/
theorem best_first_reported_sorted [ScoreLaws S] (T : Tuning S) (hs : T.fuzzySort = GoSort.fuzzyStable) (db : Db)
    (q : Bytes) (o : Opts S) (r : List (Nat × S))
    (hoff : search T db q { o with useFuzzy := false } = .ok [])
    (hon : search T db q { o with useFuzzy := true } = .ok r) :
    r.Pairwise (fun a b => ScoreOps.lt a.2 b.2 = false) :=
  best_first_reported T (sortOK_of_goStable T hs) db q o r hoff hon

/-- **Completeness without a threshold** (`complete` without the sort premise) -/
theorem complete_sorted (T : Tuning S) (hf : FoldOK T.ri) (hs : T.fuzzySort = GoSort.fuzzyStable) (db : Db) (q : Bytes)
    (o : Opts S) (h0 : o.fuzzyThreshold = 0) (hq : T.normQ q ≠ [])
    (hoff : search T db q { o with useFuzzy := false } = .ok [])
    (hd : ∃ (i : Nat) (c : Cmd), db[i]? = some c ∧ passes T.ri T.host o.filter c = true ∧
      Occurs T.ri.eqFold (runes (T.normQ q)) (runes (fuzzyTarget c))) :
    ∃ r, search T db q { o with useFuzzy := true } = .ok r ∧ r ≠ [] :=
  complete T hf (sortOK_of_goStable T hs) db q o h0 hq hoff hd

/-- `fallback_tie_order` with `ms` tied as in `best_first_tied`: the ties are of LIBRARY scores, not of reported ones -/
theorem fallback_tie_order_tied (T : Tuning S) (hs : T.fuzzySort = GoSort.fuzzyStable) (db : Db) (q : Bytes) (o : Opts S)
    (r : List (Nat × S))
    (hoff : search T db q { o with useFuzzy := false } = .ok [])
    (hon : search T db q { o with useFuzzy := true } = .ok r) :
    ∃ ms : List (Nat × Int), (∃ all, findNoSort T.ri (T.normQ q) (db.map fuzzyTarget) = .ok all ∧
        ms = fuzzyKept T db o (effLimit o) all) ∧
      r = ms.map (fun m => (m.1, normalizeFuzzy m.2)) ∧
      ms.Pairwise (fun a b => a.2 > b.2 ∨ (a.2 = b.2 ∧ a.1 > b.1)) := by
  rw [fallback_only_when_nothing T db q o hoff] at hon
  obtain ⟨all, hfind, hr⟩ := fuzzySearch_inv hon
  exact ⟨_, ⟨all, hfind, rfl⟩, hr, (hs ▸ GoSort.fuzzyStable_lex all (Fuzzy.findNoSort_increasing _ _ hfind)).sublist
    (fuzzyKept_sublist ..)⟩

/-- **The order of the fallback's answer is fixed by a rule**: best library score first, and commands with EQUAL library
    score in reverse database order (the later command first).  That is what Go's `sort.Stable` does with the library's
    non-strict `Less` on matches that arrive in database order (`GoSort.fuzzyStable_lex`); the answer is an in-order
    sub-list of that (the eligible, above-threshold matches, cut at the limit). -/
theorem fallback_tie_order (T : Tuning S) (hs : T.fuzzySort = GoSort.fuzzyStable) (db : Db) (q : Bytes) (o : Opts S)
    (r : List (Nat × S))
    (hoff : search T db q { o with useFuzzy := false } = .ok [])
    (hon : search T db q { o with useFuzzy := true } = .ok r) :
    ∃ ms : List (Nat × Int), r = ms.map (fun m => (m.1, normalizeFuzzy m.2)) ∧
      ms.Pairwise (fun a b => a.2 > b.2 ∨ (a.2 = b.2 ∧ a.1 > b.1)) :=
  let ⟨ms, _, h1, h2⟩ := fallback_tie_order_tied T hs db q o r hoff hon; ⟨ms, h1, h2⟩

/-- the library's sort in closed form, as a statement of its own: on matches in index order, the unique permutation
    ordered by score (best first) and, within a score, by index (highest first) — whatever the block size or merge
    strategy of the toolchain's `sort.Stable` -/
theorem fuzzy_sort_closed_form (ms : List (Nat × Int)) (h : (ms.map (·.1)).Pairwise (· < ·)) :
    (GoSort.fuzzyStable ms).Perm ms ∧
    (GoSort.fuzzyStable ms).Pairwise (fun a b => a.2 > b.2 ∨ (a.2 = b.2 ∧ a.1 > b.1)) ∧
    ∀ l : List (Nat × Int), l.Perm ms → l.Pairwise (fun a b => a.2 > b.2 ∨ (a.2 = b.2 ∧ a.1 > b.1)) →
      l = GoSort.fuzzyStable ms :=
  ⟨GoSort.fuzzyStable_perm ms, GoSort.fuzzyStable_lex ms h, GoSort.fuzzyStable_unique ms h⟩

section examples
open Example

private def TS : Tuning Q := { (tuning) with fuzzySort := GoSort.fuzzyStable }
private def dbS : Db := [mk "ls -la" "list files" [], mk "tar czf x" "compress directory" [], mk "zip" "zip things" [],
  mk "ls -la" "list files" [], mk "lint" "lint the tree" []]

/-- the premise is satisfiable … -/
example : TS.fuzzySort = GoSort.fuzzyStable := rfl
example : FoldOK TS.ri := by intro f hf; cases hf
/-- … and the theorems speak about a fallback that answers: "lt" matches nothing lexically; with typo tolerance the
    matching commands come best score first (`lint …`: 14, the two `ls -la list files`: −10 each — in reverse database
    order, the tie order of the non-strict `Less`) -/
example : ids (search TS dbS (bs "lt") opts) = some [] ∧
    ids (search TS dbS (bs "lt") { opts with useFuzzy := true }) = some [4, 3, 0] := by decide +kernel

end examples

end Wtf.C07
