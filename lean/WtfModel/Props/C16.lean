import WtfModel.Proofs.HistoryRun
import WtfModel.Proofs.HistoryViews
import WtfModel.Gen.History

/-!
  C16 — search history is a bounded, ordered, faithfully persisted log.
  Property theorems only (helper lemmas live in Proofs/History*.lean).

  Quantifiers: every requested maximum `m : Int` (incl. zero / negative), every start time, every
  query / context byte string, every history of `add / save / load / clear` (`Op`, with the clock
  advancing by an arbitrary `dt ≥ 0` per add), and — for the no-crash clause — every history that in
  addition lets the environment put ARBITRARY content into the file (`Op.setFile`), over ANY codec.
  `P` is regenerated from the source on every run (`Gen/History.lean`).

  The save/load theorems here are over an abstract codec satisfying `Codec.LawsOn` (the parser reads back
  what `Save` writes; strings in `valid`, instants in `okT` survive), and their histories record strings in `valid`
  (`OpsValid`).  `goCodec_lawsOn` (Proofs/HistoryJsonLaws.lean) proves those laws for the executable codec the driver runs
  against encoding/json; `Props/C16b.lean` states the clauses for that codec, so nothing about the codec is assumed there.
-/
namespace Wtf.C16
open Wtf.History

/-- the facts about the current source -/
def P : Params :=
  { newDefault := Wtf.Gen.History.newDefault, loadGuard := Wtf.Gen.History.loadGuard,
    loadFallback := Wtf.Gen.History.loadFallback }

/-- The regenerated facts are usable: the constructor default is positive and `Load` can never install
    a non-positive `max_size` (it takes the file's value only when positive, and/or falls back to a
    positive constant).  Breaks — and with it every theorem below that needs `ParamsOk` — as soon as
    the source loses that protection. -/
theorem gen_params_ok : ParamsOk P := paramsOk_of_check (by decide)

/-- every maximum the CLI asks for is positive and is used as is -/
theorem cli_max_positive : ∀ m ∈ Wtf.Gen.History.cliMaxSizes, 0 < m ∧ (new P m).maxSize = m := by decide

section
variable {F : Type} (C : Codec F)

/-- **Bounded, ordered, the most recent searches.**  After any sequence of adds, saves, loads, clears and
    new processes on the same file (`restart m'`, any requested size) starting from
    `NewSearchHistory(path, m)`: no add panicked; the limit in force is positive; never more entries than
    the limit; timestamps are non-decreasing; and the entries are exactly the last `max` elements of the
    unbounded reference log (`specRun`: an immediately repeated query replaces its predecessor, `load`
    returns to the log as it was at the last `save`, `clear` empties it, a new process starts empty). -/
theorem bounded_ordered {valid : Bytes → Prop} {okT : Int → Prop} (L : Codec.LawsOn C valid okT (fun _ => True)) (m t0 : Int) (ops : List (Op F))
    (htool : ∀ op ∈ ops, op.isTool = true) (hvalid : OpsValid valid okT (fun _ => True) t0 ops) :
    ∃ y, run C P (init P m t0) ops = .ok y ∧
      0 < y.h.maxSize ∧
      (y.h.entries.length : Int) ≤ y.h.maxSize ∧
      y.h.entries.Pairwise (fun a b => a.ts ≤ b.ts) ∧
      y.h.entries.map Entry.core = lastN y.h.maxSize.toNat (specRun ⟨[], none, t0⟩ ops).log := by
  have hpos := new_maxSize_pos gen_params_ok m
  obtain ⟨y, hy, hi⟩ := run_inv C L P (Q := fun k => 0 < k) (fun _ h => h) (fun _ _ => trivial) ops
    (init_inv C P m t0 hpos hpos) (Op.ok_of_isTool htool fun m _ => new_maxSize_pos gen_params_ok m) hvalid
  exact ⟨y, hy, hi.max, hi.bounded, hi.chrono.1, hi.refines⟩

/-- The limit in force is the requested one (or the default for a non-positive request) as long as every
    process on the file asks for the same effective size — which is what the CLI does (`cli_max_positive`). -/
theorem limit_is_requested {valid : Bytes → Prop} {okT : Int → Prop} (L : Codec.LawsOn C valid okT (fun _ => True)) (m t0 : Int) (ops : List (Op F))
    (hsame : ∀ op ∈ ops, op.Ok P (fun k => k = (if m ≤ 0 then Wtf.Gen.History.newDefault else m)))
    (hvalid : OpsValid valid okT (fun _ => True) t0 ops) :
    ∃ y, run C P (init P m t0) ops = .ok y ∧
      y.h.maxSize = (if m ≤ 0 then Wtf.Gen.History.newDefault else m) := by
  have hpos := new_maxSize_pos gen_params_ok m
  obtain ⟨y, hy, hi⟩ := run_inv C L P (Q := fun k => k = (if m ≤ 0 then Wtf.Gen.History.newDefault else m))
    (fun k hk => by rw [hk]; exact hpos) (fun _ _ => trivial) ops (init_inv C P m t0 rfl hpos) hsame hvalid
  exact ⟨y, hy, hi.max⟩

/-- **Immediate duplicate.**  Adding the query of the last entry again replaces that entry (new
    timestamp, results, context, duration) and adds nothing — whatever the limit is. -/
theorem immediate_dup (s : State) (l e : Entry) (hl : s.entries.getLast? = some l) (hq : l.query = e.query) :
    ∃ s', add s e = .ok s' ∧ s'.entries = s.entries.dropLast ++ [e] ∧
      s'.entries.length = s.entries.length ∧ s'.maxSize = s.maxSize :=
  ⟨_, add_of_dup hl hq, rfl, length_dropLast_append hl e, rfl⟩

/-- Any other add appends the entry and keeps the last `max` entries, oldest dropped first. -/
theorem add_new_appends (s : State) (hm : 0 < s.maxSize) (e : Entry)
    (hnd : ∀ l, s.entries.getLast? = some l → l.query ≠ e.query) :
    ∃ s', add s e = .ok s' ∧ s'.entries = lastN s.maxSize.toNat (s.entries ++ [e]) ∧
      s'.entries.length = min s.maxSize.toNat (s.entries.length + 1) ∧
      s'.entries.getLast? = some e ∧ s'.maxSize = s.maxSize := by
  refine ⟨_, (add_of_fresh hnd).trans (addNew_eq hm e), rfl, ?_, ?_, rfl⟩
  · simp only [lastN_length, List.length_append, List.length_singleton]
  · rw [lastN_getLast? (by omega)]; simp

/-- **Save then load gives back the same entries** (and the same limit): loading the bytes `Save` wrote
    for `s` yields exactly `s` and no error — for ANY receiver state `r` (a fresh `NewSearchHistory` of any
    size, or a live history holding other entries). -/
theorem roundtrip {valid : Bytes → Prop} {okT : Int → Prop} (L : Codec.LawsOn C valid okT (fun _ => True)) (r s : State) (hm : 0 < s.maxSize)
    (hv : ∀ e ∈ s.entries, valid e.query ∧ valid e.context ∧ okT e.ts) :
    load C P r (some (saveBytes C s)) = (s, none) :=
  load_saveBytes L P r s hm trivial (fun e he => ⟨(hv e he).1, (hv e he).2.1, (hv e he).2.2, trivial, trivial⟩)

/-- The same inside histories: in every state reachable by adds/saves/loads/clears, `save` followed by `load`
    changes nothing, and a new process (any requested size `m'`) that loads the saved file holds exactly the
    same entries under the same limit (histories may themselves contain such restarts). -/
theorem roundtrip_history {valid : Bytes → Prop} {okT : Int → Prop} (L : Codec.LawsOn C valid okT (fun _ => True)) (m t0 : Int) (ops : List (Op F))
    (htool : ∀ op ∈ ops, op.isTool = true) (hvalid : OpsValid valid okT (fun _ => True) t0 ops) :
    ∃ y y', run C P (init P m t0) ops = .ok y ∧ run C P (init P m t0) (ops ++ [.save, .load]) = .ok y' ∧
      y'.h = y.h ∧ ∀ m' : Int, (load C P (new P m') (some (saveBytes C y.h))) = (y.h, none) := by
  have hpos := new_maxSize_pos gen_params_ok m
  obtain ⟨y, hy, hi⟩ := run_inv C L P (Q := fun k => 0 < k) (fun _ h => h) (fun _ _ => trivial) ops
    (init_inv C P m t0 hpos hpos) (Op.ok_of_isTool htool fun m _ => new_maxSize_pos gen_params_ok m) hvalid
  have hrt := hi.load_save L P (fun _ h => h) (fun _ _ => trivial)
  refine ⟨y, { y with h := y.h, file := some (saveBytes C y.h) }, hy, ?_, rfl, fun m' => hrt _⟩
  rw [run_append _ hy]
  simp only [run, step, hrt y.h]

end

/-- **Recent queries** are the first sightings, newest first, cut at the limit (10 for a non-positive
    request): distinct, a sub-list of the newest-first listing of the entries' queries, every one of
    them a query of some entry, at most `limit` of them — and all distinct queries when the limit allows. -/
theorem recent (s : State) (n : Int) :
    let newestFirst := s.entries.reverse.map (·.query)
    let lim := if n ≤ 0 then 10 else n.toNat
    History.recent s n = (dedupFirst newestFirst).take lim ∧
    (History.recent s n).Nodup ∧ (History.recent s n).Sublist newestFirst ∧
    (∀ q ∈ History.recent s n, ∃ e ∈ s.entries, e.query = q) ∧
    (History.recent s n).length ≤ lim ∧
    ((dedupFirst newestFirst).length ≤ lim → ∀ e ∈ s.entries, e.query ∈ History.recent s n) := by
  intro newestFirst lim
  have he : History.recent s n = (dedupFirst newestFirst).take lim := recent_eq s n
  have hsub : (History.recent s n).Sublist newestFirst := by
    rw [he]; exact (List.take_sublist _ _).trans (dedupFirst_sublist _)
  refine ⟨he, ?_, hsub, ?_, ?_, ?_⟩
  · rw [he]; exact List.Nodup.sublist (List.take_sublist _ _) (dedupFirst_nodup _)
  · intro q hq
    have := hsub.subset hq
    simp only [newestFirst, List.mem_map, List.mem_reverse] at this
    exact this
  · rw [he, List.length_take]; omega
  · intro hle e hm
    rw [he, List.take_of_length_le hle, mem_dedupFirst]
    simp only [newestFirst, List.mem_map, List.mem_reverse]
    exact ⟨e, hm, rfl⟩

/-- the newest entry's query comes first -/
theorem recent_head (s : State) (n : Int) (e : Entry) (h : s.entries.getLast? = some e) :
    (History.recent s n).head? = some e.query := by
  have h1 := effLimit_pos n
  rw [recent_eq, List.head?_take, if_neg (by omega), dedupFirst_head?, List.head?_map, List.head?_reverse, h]
  rfl

/-- **Top queries**, for EVERY answer the real `GetTopQueries` can give: it builds the table by ranging over a Go
    map and sorts with the unstable `sort.Slice`, so its answer is the first `lim` rows of *some* arrangement of the
    frequency table sorted by (frequency, recency) — `TopSpec`.  For every such answer: each count is the true frequency of
    its query, queries are listed once, sorted by frequency; nothing left out is more frequent than anything listed; and when
    the limit covers all distinct queries the counts add up to the number of entries. -/
theorem top_any_schedule (es : List Entry) (lim : Nat) (r : List QF) (h : TopSpec es lim r) :
    (∀ qf ∈ r, qf.count = countOf qf.query es ∧ 0 < qf.count ∧ ∃ e ∈ es, e.query = qf.query) ∧
    (r.map (·.query)).Nodup ∧
    r.Pairwise (fun a b => b.count ≤ a.count) ∧
    r.length = min lim (distinctQueries es).length ∧
    (∀ e ∈ es, e.query ∉ r.map (·.query) → ∀ qf ∈ r, countOf e.query es ≤ qf.count) ∧
    ((distinctQueries es).length ≤ lim →
      (r.map (·.count)).sum = es.length ∧ ∀ e ∈ es, e.query ∈ r.map (·.query)) := by
  obtain ⟨l, hp, hs, rfl⟩ := h
  have hlen : l.length = (distinctQueries es).length := by
    rw [hp.length_eq, ← freqTable_queries, List.length_map]
  have hnod : (l.map (·.query)).Nodup := by
    rw [(hp.map (·.query)).nodup_iff, freqTable_queries]; exact dedupFirst_nodup _
  have hsorted : l.Pairwise (fun a b => b.count ≤ a.count) := by
    apply hs.imp
    intro a b hab
    rw [qfBefore_false_iff] at hab; omega
  refine ⟨?_, ?_, ?_, ?_, ?_, ?_⟩
  · intro qf hq
    have := mem_freqTable (hp.mem_iff.mp (List.mem_of_mem_take hq))
    exact ⟨this.1, this.1 ▸ countOf_pos this.2.2, this.2.2⟩
  · exact List.Nodup.sublist ((List.take_sublist _ _).map _) hnod
  · exact hsorted.sublist (List.take_sublist _ _)
  · rw [List.length_take, hlen]
  · intro e he hnot qf hq
    -- e's row is in `l` but not in the first `lim`: it comes after every taken row
    have hrow : (⟨e.query, countOf e.query es, lastSeen e.query es⟩ : QF) ∈ l := by
      rw [hp.mem_iff]
      simp only [freqTable, List.mem_map]
      exact ⟨e.query, mem_distinctQueries.mpr ⟨e, he, rfl⟩, rfl⟩
    rw [← List.take_append_drop lim l] at hrow hsorted
    rw [List.mem_append] at hrow
    rcases hrow with hr | hr
    · exact absurd (List.mem_map_of_mem (f := (·.query)) hr) hnot
    · rw [List.pairwise_append] at hsorted
      exact hsorted.2.2 qf hq _ hr
  · intro hle
    have htake : l.take lim = l := List.take_of_length_le (by omega)
    rw [htake]
    refine ⟨?_, ?_⟩
    · rw [(hp.map (·.count)).sum_nat, freqTable_sum]
    · intro e he
      rw [(hp.map (·.query)).mem_iff, freqTable_queries]
      exact mem_distinctQueries.mpr ⟨e, he, rfl⟩

/-- The same for the executable model (stable sort), whose answer is one of them (`top_topSpec`). -/
theorem top_sum (s : State) (n : Int) :
    (∀ qf ∈ top s n, qf.count = countOf qf.query s.entries ∧ 0 < qf.count ∧ ∃ e ∈ s.entries, e.query = qf.query) ∧
    ((top s n).map (·.query)).Nodup ∧
    (top s n).Pairwise (fun a b => b.count ≤ a.count) ∧
    (top s n).length = min (effLimitTop n) (distinctQueries s.entries).length ∧
    (∀ e ∈ s.entries, e.query ∉ (top s n).map (·.query) → ∀ qf ∈ top s n, countOf e.query s.entries ≤ qf.count) ∧
    ((distinctQueries s.entries).length ≤ effLimitTop n →
      ((top s n).map (·.count)).sum = s.entries.length ∧ ∀ e ∈ s.entries, e.query ∈ (top s n).map (·.query)) :=
  top_any_schedule _ _ _ (top_topSpec s n)

/-- **Statistics**: total = number of entries; unique = number of distinct queries (the length of a
    duplicate-free list with exactly the entries' queries); oldest / newest = first / last entry. -/
theorem stats (s : State) :
    (History.stats s).total = s.entries.length ∧
    (History.stats s).unique = (distinctQueries s.entries).length ∧
    (distinctQueries s.entries).Nodup ∧ (∀ q, q ∈ distinctQueries s.entries ↔ ∃ e ∈ s.entries, e.query = q) ∧
    (∀ a b, s.entries.head? = some a → s.entries.getLast? = some b →
      (History.stats s).oldest = a.ts ∧ (History.stats s).newest = b.ts) :=
  ⟨(stats_total_unique s).1, (stats_total_unique s).2, dedupFirst_nodup _, fun _ => mem_distinctQueries,
   stats_oldest_newest s⟩

/-- **No file content can make recording a search crash** (the CLI's sequence): a new history of any
    requested size, `Load` over ANY file — absent, empty, damaged, with any max_size; `C` is an arbitrary
    codec, nothing is assumed about it — then `AddEntry`: no panic, the limit in force is positive, the
    search is recorded as the last entry. -/
theorem add_no_panic {F : Type} (C : Codec F) (m : Int) (file : Option F) (e : Entry) :
    ∃ s', add (load C P (new P m) file).1 e = .ok s' ∧ 0 < s'.maxSize ∧ s'.entries.getLast? = some e := by
  have hp := load_maxSize_pos C gen_params_ok (new P m) (new_maxSize_pos gen_params_ok m) file
  refine ⟨_, add_eq hp e, hp, ?_⟩
  exact addEntries_getLast? _ (by omega) _ _

/-- The same over whole histories: adds, saves, loads, clears interleaved with the environment replacing
    the file by arbitrary content (`setFile`), any codec: no step ever panics and the limit stays positive. -/
theorem add_no_panic_after_any_file {F : Type} (C : Codec F) (m t0 : Int) (ops : List (Op F)) :
    ∃ y, run C P (init P m t0) ops = .ok y ∧ 0 < y.h.maxSize :=
  run_pos C P gen_params_ok ops (new_maxSize_pos gen_params_ok m)

/-! Why the protection in `Load` is needed: witnesses on raw states. -/

/-- With a negative limit in force, every add that is not an immediate repeat panics
    (`slice bounds out of range [len+1-max : len+1]`; for `max_size = -3` on an empty history: `[4:1]`). -/
theorem raw_negative_max_panics (s : State) (e : Entry) (hneg : s.maxSize < 0)
    (hnd : ∀ l, s.entries.getLast? = some l → l.query ≠ e.query) :
    add s e = .error (.sliceBounds ((s.entries.length : Int) + 1 - s.maxSize) (s.entries.length + 1)) := by
  rw [add_of_fresh hnd, addNew_cases, if_neg (by omega)]

/-- With a zero limit in force nothing panics, but every new entry is dropped at once. -/
theorem raw_zero_max_drops (s : State) (e : Entry) (hz : s.maxSize = 0)
    (hnd : ∀ l, s.entries.getLast? = some l → l.query ≠ e.query) :
    add s e = .ok { s with entries := [] } := by
  rw [add_of_fresh hnd, addNew_cases, if_pos (by omega), hz]
  simp [lastN]

/-- a codec whose files are documents (used for witnesses and non-vacuity only) -/
def docCodec : Codec JVal :=
  { parse := some, print := id, isEmpty := fun _ => false, unquote := id, quote := id,
    parseTime := fun b => match b with
      | [] => none
      | sgn :: r => some (if sgn = 1 then - (r.length : Int) else (r.length : Int)),
    fmtTime := fun t => (if t < 0 then 1 else 0) :: List.replicate t.natAbs 0 }

/-- If `Load` took the file's max_size unconditionally and had no fallback (the code before the fix), a
    file saying `max_size: -3` would make the very next recorded search panic. -/
theorem unguarded_load_lets_file_break_add :
    ∃ (file : JVal) (e : Entry) (p : Panic),
      add (load docCodec ⟨100, false, none⟩ (new ⟨100, false, none⟩ 100) (some file)).1 e = .error p :=
  ⟨.obj [(kMaxSize, .int (-3))], ⟨[97], 1, 0, [], 0⟩, .sliceBounds 4 1, by rfl⟩

/-! ### Non-vacuity -/

/-- the codec laws are satisfiable -/
example : docCodec.Laws (fun _ => True) :=
  { parse_print := fun _ => rfl, print_nonempty := fun _ => rfl, unquote_quote := fun _ _ => rfl,
    parseTime_fmtTime := by
      intro t
      simp only [docCodec, List.length_replicate]
      by_cases h : t < 0
      · simp [h]; omega
      · simp [h]; omega }

/-- fixed parameters for the examples (they illustrate the model; they must not depend on what is regenerated) -/
private def Pex : Params := ⟨100, true, some 100⟩
private def q (c : UInt8) : Bytes := [c]
private def demoOps : List (Op JVal) :=
  [.add (q 97) 1 [] 0 1, .add (q 98) 2 [103, 111] 5 1, .add (q 98) 3 [] 0 0, .save, .add (q 99) 4 [] 0 2, .add (q 97) 5 [] 0 1,
   .restart 7, .load, .add (q 100) 6 [] 0 1]

-- limit 2: b was added twice in a row (collapsed); c and a were added after the save and are gone in the new
-- process (which asked for 7 but takes the file's limit 2)
example : (match run docCodec Pex (init Pex 2 1000) demoOps with
    | .ok y => y.h.entries.map (fun e => (e.query, e.results, e.context))
    | .error _ => []) = [(q 98, 3, []), (q 100, 6, [])] := by decide +kernel
example : (match run docCodec Pex (init Pex 2 1000) demoOps with
    | .ok y => y.h.maxSize
    | .error _ => 0) = 2 := by decide +kernel
example : (specRun (F := JVal) ⟨[], none, 1000⟩ demoOps).log.map (·.1) = [q 97, q 98, q 100] := by decide +kernel
example : ∀ op ∈ demoOps, op.isTool = true := by decide +kernel
-- hostile file: max_size -3 is not taken over, the entries are; then a search is recorded
example : (match run docCodec Pex (init Pex 3 0)
      [.setFile (some (.obj [(kMaxSize, .int (-3)), (kEntries, .arr [.obj [(kQuery, .str (q 120))]])])), .load, .add (q 121) 1 [] 0 1] with
    | .ok y => (y.h.maxSize, y.h.entries.map (·.query))
    | .error _ => (0, [])) = (3, [q 120, q 121]) := by decide +kernel
-- a type error anywhere in the document leaves the receiver untouched
example : (load docCodec Pex (new Pex 3) (some (.obj [(kEntries, .arr [.obj [(kQuery, .int 5)]]), (kMaxSize, .int 7)]))) = (new Pex 3, some .parse) := by decide +kernel
-- views
private def demoState : State :=
  { entries := [⟨q 97, 1, 1, [], 0⟩, ⟨q 98, 2, 1, [], 0⟩, ⟨q 97, 3, 1, [], 0⟩, ⟨q 99, 4, 1, [], 0⟩, ⟨q 97, 5, 1, [], 0⟩], maxSize := 5 }
example : History.recent demoState 2 = [q 97, q 99] := by decide +kernel
example : (top demoState 0).map (fun r => (r.query, r.count)) = [(q 97, 3), (q 99, 1), (q 98, 1)] := by decide +kernel
example : ((History.stats demoState).total, (History.stats demoState).unique) = (5, 3) := by decide +kernel
example : add ⟨[], -3⟩ ⟨q 97, 1, 0, [], 0⟩ = .error (.sliceBounds 4 1) := by rfl

end Wtf.C16
