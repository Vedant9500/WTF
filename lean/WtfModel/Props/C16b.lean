import WtfModel.Props.C16
import WtfModel.Proofs.HistoryJsonLaws

/-!
  C16, second part — the save / load clauses WITHOUT an assumption about the codec.

  `Props/C16.lean` states "saving and loading gives back the same entries" over an abstract codec that
  satisfies `Codec.LawsOn`.  Here the codec is the executable one of `Model/HistoryJson.lean`
  (`goCodec`: the JSON reader / writer, string escaping and RFC 3339 text that the driver runs against
  the real encoding/json on every check), and `goCodec_lawsOn` PROVES the laws for it:

  * strings: `unquote (quote b) = b` exactly for valid UTF-8 (`validUtf8_iff`: the fixed points of
    encoding/json's sanitising are the valid texts, said without reference to the codec);
  * instants: `parseTime (fmtTime t) = some t` for calendar instants of the years 1 .. 9999;
  * documents: the parser reads back every document `Save` writes (`parse_print_wf`, for all nesting
    depths and lengths; fuel of `parse` shown sufficient), integers in Go's `int` range.

  What is still trusted for these clauses: that `goCodec` is what encoding/json and time.Time do (the
  `hist` correspondence domains compare bytes written and values read on every run).
-/
namespace Wtf.C16
open Wtf.History Wtf.History.Json

/-- limits a process can hold: positive and within Go's `int` -/
def Q64 (k : Int) : Prop := 0 < k ∧ k ≤ 9223372036854775807

theorem q64_int64 (k : Int) (h : Q64 k) : Int64 k := ⟨by unfold Q64 at h; omega, h.2⟩

/-- the source's default limit fits (regenerated) -/
theorem new_default_fits : Wtf.Gen.History.newDefault ≤ 9223372036854775807 := by decide

theorem new_q64 (m : Int) (hm : m ≤ 9223372036854775807) : Q64 (new P m).maxSize := by
  refine ⟨new_maxSize_pos gen_params_ok m, ?_⟩
  rw [new_maxSize]
  split
  · exact new_default_fits
  · exact hm

/-- **Save then load gives back the same entries — for the modelled encoding/json, nothing assumed.**
    For any receiver `r` and any state `s` whose strings are valid UTF-8, whose instants are calendar
    instants and whose integers fit Go's `int`: loading the bytes `Save` writes for `s` yields exactly `s`. -/
theorem roundtrip_go (r s : State) (hm : Q64 s.maxSize)
    (hv : ∀ e ∈ s.entries, validUtf8 e.query = true ∧ validUtf8 e.context = true ∧ OkTime e.ts ∧
      Int64 e.results ∧ Int64 e.duration) :
    load goCodec P r (some (saveBytes goCodec s)) = (s, none) :=
  load_saveBytes goCodec_lawsOn P r s hm.1 (q64_int64 _ hm) hv

/-- A string that is NOT valid UTF-8 does not survive (encoding/json substitutes U+FFFD): the validity
    hypothesis of `roundtrip_go` is exactly what is needed. -/
theorem invalid_string_changes (b : Bytes) (h : validUtf8 b = false) : unquote (quote b) ≠ b := by
  intro he
  rw [(validUtf8_iff b).mpr he] at h
  exact Bool.noConfusion h

/-- **Bounded, ordered, most recent — with the modelled codec.**  As `bounded_ordered`, for histories of
    adds / saves / loads / clears / new processes whose recorded strings are valid UTF-8, whose instants are
    representable and whose integers (results, duration, requested sizes) fit Go's `int`. -/
theorem bounded_ordered_go (m t0 : Int) (ops : List (Op Bytes)) (hm : m ≤ 9223372036854775807)
    (htool : ∀ op ∈ ops, op.isTool = true) (hre : ∀ m', Op.restart m' ∈ ops → m' ≤ 9223372036854775807)
    (hvalid : OpsValid (fun b => validUtf8 b = true) OkTime Int64 t0 ops) :
    ∃ y, run goCodec P (init P m t0) ops = .ok y ∧
      0 < y.h.maxSize ∧
      (y.h.entries.length : Int) ≤ y.h.maxSize ∧
      y.h.entries.Pairwise (fun a b => a.ts ≤ b.ts) ∧
      y.h.entries.map Entry.core = lastN y.h.maxSize.toNat (specRun ⟨[], none, t0⟩ ops).log := by
  have hq := new_q64 m hm
  obtain ⟨y, hy, hi⟩ := run_inv goCodec goCodec_lawsOn P (Q := Q64) (fun _ h => h.1) q64_int64 ops
    (init_inv goCodec P m t0 hq hq.1) (Op.ok_of_isTool htool fun m' h => new_q64 m' (hre m' h)) hvalid
  exact ⟨y, hy, hi.max.1, hi.bounded, hi.chrono.1, hi.refines⟩

/-- **Save / load inside histories — with the modelled codec.**  In every state such a history reaches,
    `save` followed by `load` changes nothing, and a new process of any requested size that loads the saved
    file holds exactly the same entries under the same limit. -/
theorem roundtrip_history_go (m t0 : Int) (ops : List (Op Bytes)) (hm : m ≤ 9223372036854775807)
    (htool : ∀ op ∈ ops, op.isTool = true) (hre : ∀ m', Op.restart m' ∈ ops → m' ≤ 9223372036854775807)
    (hvalid : OpsValid (fun b => validUtf8 b = true) OkTime Int64 t0 ops) :
    ∃ y, run goCodec P (init P m t0) ops = .ok y ∧
      (∀ r : State, load goCodec P r (some (saveBytes goCodec y.h)) = (y.h, none)) ∧
      step goCodec P { y with file := some (saveBytes goCodec y.h) } .load =
        .ok { y with file := some (saveBytes goCodec y.h) } := by
  have hq := new_q64 m hm
  obtain ⟨y, hy, hi⟩ := run_inv goCodec goCodec_lawsOn P (Q := Q64) (fun _ h => h.1) q64_int64 ops
    (init_inv goCodec P m t0 hq hq.1) (Op.ok_of_isTool htool fun m' h => new_q64 m' (hre m' h)) hvalid
  have hrt := hi.load_save goCodec_lawsOn P (fun _ h => h.1) q64_int64
  refine ⟨y, hy, hrt, ?_⟩
  simp only [step, hrt y.h]

/-! ### Non-vacuity: the hypotheses are met by an ordinary history -/

private def tEx : Int := (pack 2024 5 17 10 30 0 0 : Int) - (zeroPacked : Int)

example : OkTime tEx := ⟨2024, 5, 17, 10, 30, 0, 0, by decide +kernel⟩
example : OkTime (tEx + 1) := ⟨2024, 5, 17, 10, 30, 0, 1, by decide +kernel⟩

/-- "lös" (with a two-byte rune) and "ls" are valid; a lone continuation byte is not -/
example : validUtf8 [108, 0xC3, 0xB6, 115] = true ∧ validUtf8 [108, 115] = true ∧ validUtf8 [0x80] = false :=
  ⟨(validUtf8_iff _).mpr (by decide +kernel), (validUtf8_iff _).mpr (by decide +kernel),
   Bool.eq_false_iff.mpr (fun h => absurd ((validUtf8_iff _).mp h) (by decide +kernel))⟩

example : OpsValid (F := Bytes) (fun b => validUtf8 b = true) OkTime Int64 tEx
    [.add [108, 0xC3, 0xB6, 115] 3 [] 0 1, .save, .restart 50, .load] :=
  ⟨⟨(validUtf8_iff _).mpr (by decide +kernel), (validUtf8_iff _).mpr (by decide +kernel), ⟨2024, 5, 17, 10, 30, 0, 1, by decide +kernel⟩,
    ⟨by decide +kernel, by decide +kernel⟩, ⟨by decide +kernel, by decide +kernel⟩⟩, trivial, trivial, trivial, trivial⟩

end Wtf.C16
