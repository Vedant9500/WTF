import WtfModel.Proofs.Notebook
import WtfModel.Model.Flags
import WtfModel.Gen.SaveCmds

/-!
  C08 — a saved command is stored faithfully, keeps its neighbours, is searchable.

  Property theorems only.  Quantification: every notebook (list of entries, any bytes in any field, also with
  repeated command strings), every new entry, every sequence of saves, every encoder/decoder pair.

  YAML (gopkg.in/yaml.v3) is the uninterpreted pair `enc`/`dec`.  Nothing is assumed about it for the safety
  clauses: HEAD's `writePersonalDatabase` decodes what it encoded and refuses to replace the file unless the
  entries come back (`saveFile`), so "success ⇒ the reloaded notebook is exactly `save xs e`" is a theorem.
  The contract `RoundTrips` appears only as the hypothesis under which a save is guaranteed to succeed.
  Not modelled: pflag's parsing (the "given" keywords are what pflag hands to the handler), yaml.v3 itself.
-/
namespace Wtf.C08
open Wtf.Notebook

variable (enc : List Cmd → Bytes) (dec : Bytes → Option (List Cmd))

/-! ### the entry the handlers build (tables regenerated from pipeline.go) -/

/-- UTF-8 bytes of a table string (kernel-reducible form of `String.toUTF8`) -/
def bytesOf (s : String) : Bytes := s.toList.flatMap String.utf8EncodeChar

/-- the literal tables of `save-pipeline`, from `Gen.SaveCmds` -/
def pipelineTables : PipelineTables :=
  { base := Wtf.Gen.SaveCmds.pipelineBaseKeywords.map bytesOf,
    rules := Wtf.Gen.SaveCmds.pipelineRules.map (fun r => (r.1.map bytesOf, r.2.map bytesOf)),
    sep := (bytesOf Wtf.Gen.SaveCmds.pipelineStepSeparator).headD 124,
    descMid := bytesOf Wtf.Gen.SaveCmds.descMid,
    descEnd := bytesOf Wtf.Gen.SaveCmds.descEnd }

/-- The handlers put every given value into the field of the same meaning (regenerated wiring), fetch their
    flags under the names they are registered with, and print the success line only after
    `saveToPersonalDatabase` returned nil. -/
theorem wiring :
    Wtf.Gen.SaveCmds.saveWiring =
      [("Command", "arg:0"), ("Description", "arg:1"), ("Keywords", "flag:keywords"), ("Niche", "flag:category"),
       ("Platform", "flag:platforms"), ("Pipeline", "flag:pipeline")] ∧
    Wtf.Gen.SaveCmds.savePipelineWiring =
      [("Command", "arg:1"), ("Description", "rule:description"), ("Keywords", "rule:keywords"), ("Niche", "flag:category"),
       ("Platform", "flag:platforms"), ("Pipeline", "true")] ∧
    Wtf.Gen.SaveCmds.descriptionFlag = "description" ∧
    Wtf.Gen.SaveCmds.successOnlyAfterSave = true := by decide +kernel

/-- `wtf save`: the entry carries exactly the given values. -/
theorem entry_of_save (c d : Bytes) (k : List Bytes) (n : Bytes) (p : List Bytes) (pl : Bool) :
    let e := entryOfSave c d k n p pl
    e.command = c ∧ e.description = d ∧ e.keywords = k ∧ e.niche = n ∧ e.platform = p ∧ e.pipeline = pl ∧ e.tags = [] := by
  simp [entryOfSave]

/-- `wtf save-pipeline`: command, category and platforms as given, pipeline flag set, the user's keywords after
    the automatic ones, the description flag (when non-empty) verbatim. -/
theorem entry_of_save_pipeline (name c : Bytes) (k : List Bytes) (n : Bytes) (p : List Bytes) (d : Bytes) :
    let e := entryOfSavePipeline pipelineTables name c k n p d
    e.command = c ∧ e.niche = n ∧ e.platform = p ∧ e.pipeline = true ∧
    e.keywords = autoKeywords pipelineTables c ++ k ∧ (d ≠ [] → e.description = d) := by
  refine ⟨rfl, rfl, rfl, rfl, rfl, ?_⟩
  intro hd
  cases d with
  | nil => exact absurd rfl hd
  | cons a t => simp [entryOfSavePipeline]

/-- **Faithful.**  If the save reports success, decoding the new file yields exactly `save xs e` where `xs` is
    what the old file decoded to (nothing for a missing file); the entry is in it, byte for byte, at the
    position of the first entry with its command string, else at the end. -/
theorem faithful {file : Option Bytes} {e : Cmd} {b : Bytes} (h : saveFile enc dec file e = .ok b) :
    ∃ xs, loadFile dec file = some xs ∧ dec b = some (save xs e) ∧ e ∈ save xs e ∧
      (save xs e)[indexOf e.command xs]? = some e := by
  obtain ⟨xs, hx, _, hd⟩ := saveFile_ok enc dec h
  exact ⟨xs, hx, hd, save_mem xs e, save_getElem_index xs e⟩

/-- A save that reports an error leaves the file as it was. -/
theorem failed_unchanged {file : Option Bytes} {e : Cmd} {err : SaveErr} (h : saveFile enc dec file e = .error err) :
    stepFile enc dec file e = file := by
  simp [stepFile, h]

/-- Under the YAML contract for the resulting list, the save succeeds. -/
theorem succeeds_of_roundtrip {file : Option Bytes} {e : Cmd} {xs : List Cmd} (hx : loadFile dec file = some xs)
    (hrt : RoundTrips enc dec (save xs e)) : saveFile enc dec file e = .ok (enc (save xs e)) :=
  saveFile_of_roundtrip enc dec hx hrt

/-- **Neighbours.**  Every position other than the one the entry went to holds what it held before; in
    particular every earlier entry with a different command string is still there, unchanged, in place. -/
theorem neighbours (xs : List Cmd) (e : Cmd) :
    (∀ i, i < xs.length → i ≠ indexOf e.command xs → (save xs e)[i]? = xs[i]?) ∧
    (∀ (i : Nat) (x : Cmd), xs[i]? = some x → x.command ≠ e.command → (save xs e)[i]? = some x) := by
  refine ⟨fun _ => save_getElem_other, ?_⟩
  intro i x hx hc
  have hi : i < xs.length := (List.getElem?_eq_some_iff.mp hx).1
  have hne : i ≠ indexOf e.command xs := by
    intro heq; rw [heq] at hx
    exact hc (getElem_indexOf hx)
  rw [save_getElem_other hi hne, hx]

/-- **Replace, never duplicate.**  Distinct command strings stay distinct; the list grows by one entry when the
    command string is new and not at all when it is present. -/
theorem no_dup (xs : List Cmd) (e : Cmd) :
    ((xs.map (·.command)).Nodup → ((save xs e).map (·.command)).Nodup) ∧
    (present e.command xs = true → (save xs e).length = xs.length) ∧
    (present e.command xs = false → (save xs e).length = xs.length + 1) ∧
    ((save xs e).length = xs.length ↔ present e.command xs = true) := by
  refine ⟨save_nodup xs e, ?_, ?_, ?_⟩
  · intro h; simp [save_length, h]
  · intro h; simp [save_length, h]
  · rw [save_length]; cases present e.command xs <;> simp

/-- **Histories.**  After any sequence of save commands the notebook decodes to the fold of `save` over the
    saves that succeeded, starting from what the initial file decoded to; a failed save is a no-op. -/
theorem history (file : Option Bytes) (xs : List Cmd) (es : List Cmd) (hx : loadFile dec file = some xs) :
    loadFile dec (runFile enc dec file es) = some ((succeeded enc dec file es).foldl save xs) := by
  induction es generalizing file xs with
  | nil => exact hx
  | cons e es ih =>
    have hs := saveFile_eq enc dec hx e
    rw [runFile, List.foldl_cons, ← runFile, succeeded, stepFile]
    -- the read-back check decides: the save goes through and the file decodes to `save xs e`, or it is a no-op
    by_cases hrt : dec (enc (save xs e)) = some (save xs e)
    · rw [if_pos hrt] at hs
      rw [hs]
      exact ih _ _ hrt
    · rw [if_neg hrt] at hs
      rw [hs]
      exact ih _ _ hx

/-- The YAML contract for the lists that occur, the notebook after each save, is enough; the real yaml.v3 can meet that,
    while it does not read back every list (DESIGN §6 C08). -/
theorem history_roundtrips (file : Option Bytes) (xs es : List Cmd) (hx : loadFile dec file = some xs)
    (hrt : ∀ k < es.length, RoundTrips enc dec ((es.take (k + 1)).foldl save xs)) :
    loadFile dec (runFile enc dec file es) = some (es.foldl save xs) := by
  rw [history enc dec file xs es hx, succeeded_all enc dec es file xs hx hrt]

/-- With the YAML contract for every list, every save succeeds and the notebook is `foldl save xs es`. -/
theorem history_contract (hrt : ∀ ys, RoundTrips enc dec ys) (file : Option Bytes) (xs : List Cmd) (es : List Cmd)
    (hx : loadFile dec file = some xs) :
    loadFile dec (runFile enc dec file es) = some (es.foldl save xs) :=
  history_roundtrips enc dec file xs es hx fun _ _ => hrt _

/-! ### the database searched -/

/-- **Merged order.**  The database used for searching is the main entries followed by the notebook entries
    (only the main entries when there is no notebook). -/
theorem merged_order (main : List Cmd) :
    loadWithPersonal dec main none = some main ∧
    (∀ b xs, dec b = some xs → loadWithPersonal dec main (some b) = some (main ++ xs)) ∧
    (∀ b, dec b = none → loadWithPersonal dec main (some b) = none) := by
  refine ⟨rfl, ?_, ?_⟩
  · intro b xs h; simp [loadWithPersonal, h]
  · intro b h; simp [loadWithPersonal, h]

/-- **Searchable (membership part).**  After a successful save the entry is in the list the search runs on,
    at index `|main| + (its notebook position)`.
    Dependency: that a member with a content word is *returned* by the search for that word is C03's index
    theorem (inverted index ≡ exhaustive scan) together with C01's "no eligible entry is dropped below the
    limit"; it is not proved here.  The C08 monitor checks it on the real code for every generated save. -/
theorem searchable {file : Option Bytes} {e : Cmd} {b : Bytes} (main : List Cmd)
    (h : saveFile enc dec file e = .ok b) :
    ∃ xs, loadFile dec file = some xs ∧ loadWithPersonal dec main (some b) = some (main ++ save xs e) ∧
      (main ++ save xs e)[main.length + indexOf e.command xs]? = some e := by
  obtain ⟨xs, hx, hd, _, hi⟩ := faithful enc dec h
  refine ⟨xs, hx, by simp [loadWithPersonal, hd], ?_⟩
  rw [List.getElem?_append_right (by omega)]
  simpa using hi

/-! ### the commands start (regenerated cobra flag table) -/

/-- the two table facts below in one statement: the kernel walks the regenerated cobra tree once for both -/
private theorem flagTable :
    (∀ c ∈ Wtf.Gen.Flags.commands, Wtf.Flags.readsRegistered Wtf.Gen.Flags.commands c = true) ∧
    (∀ c ∈ Wtf.Gen.Flags.commands, Wtf.Flags.shorthandsDisjoint Wtf.Gen.Flags.commands c = true) := by decide +kernel

/-- every flag a handler fetches is registered (locally or inherited) with the kind it is fetched as -/
theorem reads_registered :
    ∀ c ∈ Wtf.Gen.Flags.commands, Wtf.Flags.readsRegistered Wtf.Gen.Flags.commands c = true := flagTable.1

/-- **Starts.**  For every command of the regenerated table, registering its flags and merging the inherited
    persistent flags and `--help` succeeds (pflag's AddFlag / AddFlagSet rules): cobra does not panic before
    the handler runs.  (`readsRegistered` looks the fetched flags up in the merged set, so it holds only where
    the merge succeeds.) -/
theorem starts : ∀ c ∈ Wtf.Gen.Flags.commands, Wtf.Flags.noShorthandClash Wtf.Gen.Flags.commands c = true := by
  intro c hc
  have h := reads_registered c hc
  unfold Wtf.Flags.readsRegistered at h
  unfold Wtf.Flags.noShorthandClash
  cases hm : Wtf.Flags.mergedFlags Wtf.Gen.Flags.commands c with
  | none => rw [hm] at h; cases h
  | some fs => rfl

/-- the clause read directly: no local flag shares its shorthand with a differently named inherited flag -/
theorem shorthands_disjoint :
    ∀ c ∈ Wtf.Gen.Flags.commands, Wtf.Flags.shorthandsDisjoint Wtf.Gen.Flags.commands c = true := flagTable.2

/-! ### Non-vacuity -/

private def c1 : Cmd := ⟨[97], [1], [], [], [], [], false⟩
private def c2 : Cmd := ⟨[98], [2], [], [], [], [], false⟩
private def c1' : Cmd := ⟨[97], [3], [[120]], [], [9], [], true⟩

/-- replace in place, keep the neighbour -/
example : save [c1, c2] c1' = [c1', c2] := by decide
/-- append when new -/
example : save [c2] c1 = [c2, c1] := by decide
/-- only the first of two equal command strings is replaced (hand-edited notebooks) -/
example : save [c1, c2, c1] c1' = [c1', c2, c1] := by decide
/-- the pflag rule rejects the pre-fix table: a local `-p` next to the inherited `-p` -/
example : Wtf.Flags.noShorthandClash
    [ { var := "rootCmd", use := "wtf", parent := "", localFlags := [], persistentFlags := [⟨"platform", "p", "stringSlice"⟩], reads := [], hasRun := true },
      { var := "saveCmd", use := "save", parent := "rootCmd", localFlags := [⟨"platforms", "p", "stringSlice"⟩], persistentFlags := [], reads := [], hasRun := true } ]
    { var := "saveCmd", use := "save", parent := "rootCmd", localFlags := [⟨"platforms", "p", "stringSlice"⟩], persistentFlags := [], reads := [], hasRun := true } = false := by decide +kernel
/-- a same-named local flag shadows the inherited one (history's `--limit`, shorthand `l`): no clash -/
example : ∃ c ∈ Wtf.Gen.Flags.commands, c.var = "historyCmd" ∧ c.localFlags.any (fun f => f.name == "limit" && f.short == "l") = true := by decide +kernel
/-- the save-pipeline rules fire: `cat f | grep x | sort` gets pipeline, workflow, search, filter, sort, order -/
example : autoKeywords pipelineTables (bytesOf "cat f | grep x | sort") =
    ["pipeline", "workflow", "search", "filter", "sort", "order"].map bytesOf := by decide +kernel
example : (entryOfSavePipeline pipelineTables (bytesOf "n") (bytesOf "a|b|c") [] [] [] []).description = bytesOf "n - 3-step pipeline" := by decide +kernel
/-- a decoder that loses information makes the save fail instead of succeed (HEAD's read-back check) -/
example : (match saveFile (fun _ => []) (fun _ => some []) none c1 with | .error .unfaithful => true | _ => false) = true := by decide
example : (match saveFile (fun xs => xs.flatMap (·.command)) (fun b => some (b.map (fun x => ⟨[x], [], [], [], [], [], false⟩))) none
    ⟨[97], [], [], [], [], [], false⟩ with | .ok [97] => true | _ => false) = true := by decide

end Wtf.C08
