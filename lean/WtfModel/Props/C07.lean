import WtfModel.Proofs.C07
import WtfModel.Proofs.ExampleScore

/-!
  C07 — typo fallback runs only when nothing matches and returns genuine matches.

  Property theorems and their test vectors (helpers: Proofs/FuzzyAccept.lean, Proofs/FuzzyFind.lean, Proofs/Fallback.lean,
  Proofs/Utf8.lean, Proofs/C07.lean, Proofs/SearchPaths.lean).  `search` is the model of `SearchUniversal`, `Fuzzy.matchOne` the full
  transliteration (scores, matched indexes, the never-reset `matchedIndex`, the index expression that can
  panic) of github.com/sahilm/fuzzy v0.1.1 for one target — both validated against the real code by the
  `search` and `fuzzy` correspondence domains.

  "The query's characters": SearchUniversal normalises the query on entry, so the matcher sees
  `T.normQ q` = `strings.ToLower(strings.TrimSpace(q))`; all statements are about `normQ q`.  (For every
  code point except U+0130 lower-casing stays inside the rune's simple-fold orbit — checked for all code
  points by `wtfverif tool c07unicode` — so matching `normQ q` under simple folding is matching `q`'s
  characters ignoring case.)

  Hypotheses, and what discharges them:
   * `FoldOK T.ri` — no entry of the Unicode fact table folds to 0 (only U+0000 is in U+0000's fold orbit):
     validated on every dumped table and for all 1,114,112 code points (`c07unicode`);
   * `SortOK T` — the library's final `sort.Stable` returns a permutation ordered by score, best first: the library's
     `Less` is `Score >=`, not a strict order, so the documented contract of `sort.Stable` does not cover it; proved for the
     modelled algorithm in Props/C07c.lean, checked on every generated case by the driver and the monitor.
  Everything else (idf, NLP analysis, TF-IDF ranking, host, …) is universally quantified.
-/
namespace Wtf.C07
open Wtf.Filters Wtf.Search Wtf.Fuzzy Wtf.Utf8

variable {S : Type} [ScoreOps S]

/-- **Enabling typo tolerance never changes an answer that exists.**  For every database, query and option
    record (NLP on or off, any threshold): if the search without typo tolerance returns a non-empty list, the
    search with it returns the identical list. -/
theorem no_override (T : Tuning S) (db : Db) (q : Bytes) (o : Opts S) (r : List (Nat × S))
    (hoff : search T db q { o with useFuzzy := false } = .ok r) (hne : r ≠ []) :
    search T db q { o with useFuzzy := true } = .ok r := by
  rw [search_eq, lexical_useFuzzy] at hoff ⊢
  cases hl : lexical T db q o with
  | some r' => rw [hl] at hoff; exact hoff
  | none =>
    rw [hl] at hoff
    simp only [orElse, fallback] at hoff
    injection hoff with hoff
    exact absurd hoff.symm hne

/-- The fallback is consulted only when nothing matches lexically, and then it *is* the answer. -/
theorem fallback_only_when_nothing (T : Tuning S) (db : Db) (q : Bytes) (o : Opts S)
    (hoff : search T db q { o with useFuzzy := false } = .ok []) :
    search T db q { o with useFuzzy := true } =
      fuzzySearch T db (T.normQ q) { o with useFuzzy := true } (effLimit o) := by
  rw [search_eq, lexical_useFuzzy] at hoff ⊢
  cases hl : lexical T db q o with
  | some r =>
    -- a lexical answer is never empty
    rw [hl] at hoff
    exact absurd (Except.ok.inj hoff) (lexical_ne_nil hl)
  | none => simp [orElse, fallback, effLimit]

/-- **What the matcher accepts.**  For a non-empty pattern and a target without the rune 0, the library
    (scored loop included) does not panic and reports a match exactly when the pattern's runes occur in the
    target's runes in order under simple case folding — greedy test `subseqFold`, equivalently (`Occurs`)
    some sub-list of the target matches the pattern rune by rune. -/
theorem accepts_iff_subseq (ri : RuneInfo) (hf : FoldOK ri) (p t : Bytes) (hp : p ≠ []) (ht : ∀ c ∈ runes t, c ≠ 0) :
    (∃ r, matchOne ri p t = .ok r) ∧
    ((∃ m, matchOne ri p t = .ok (some m)) ↔ subseqFold ri.eqFold (runes p) (runes t) = true) ∧
    (subseqFold ri.eqFold (runes p) (runes t) = true ↔ Occurs ri.eqFold (runes p) (runes t)) := by
  obtain ⟨r, hr, _⟩ := matchOne_spec ri hf p t hp ht
  exact ⟨⟨r, hr⟩, matchOne_some_iff ri hf p t hp ht, subseqFold_iff _ _⟩

/-- the scored loop decides accept / reject / panic exactly as its acceptance skeleton `arun`
    (remaining pattern + the sticky `matchedIndex > -1` flag) — for every input, NUL or not -/
theorem refinement (ri : RuneInfo) (p t : Bytes) :
    (∀ rem sn, arun ri.eqFold (runes p) false (runes t) = .ok (rem, sn) →
      ∃ r, matchOne ri p t = .ok r ∧ r.isSome = rem.isEmpty) ∧
    (∀ e, arun ri.eqFold (runes p) false (runes t) = .error e → matchOne ri p t = .error .indexOutOfRange) := by
  have h := matchOne_verdict ri p t
  constructor
  · intro rem sn ha
    rw [ha] at h
    exact map_eq_ok h
  · intro e ha
    rw [ha] at h
    cases hm : matchOne ri p t with
    | ok r => rw [hm] at h; cases h
    | error e' => cases e'; rfl

/-- the targets handed to the matcher are NUL-free by construction (performFuzzySearch's `ReplaceAll`) -/
theorem target_nul_free (c : Cmd) : (∀ b ∈ fuzzyTarget c, b ≠ 0) ∧ (∀ r ∈ runes (fuzzyTarget c), r ≠ 0) :=
  ⟨fuzzyTarget_bytes_ne_zero c, fuzzyTarget_runes_ne_zero c⟩

/-- the rune equality of the matcher satisfies what `accepts_iff_subseq` needs, from the table condition -/
theorem eqFold_laws (ri : RuneInfo) (hf : FoldOK ri) :
    (∀ a b, ri.eqFold a b = ri.eqFold b a) ∧ (∀ c, ri.eqFold 0 c = true ↔ c = 0) := by
  refine ⟨eqFold_symm ri, fun c => ?_⟩
  constructor
  · intro h
    by_cases hc : c = 0
    · exact hc
    · rw [eqFold_zero ri hf c hc] at h; cases h
  · rintro rfl; simp [RuneInfo.eqFold]

/-- **Never a panic**: for every database (NUL bytes included), query and option record the model of
    SearchUniversal returns a list (this is also what C10 needs from the fallback). -/
theorem no_panic (T : Tuning S) (hf : FoldOK T.ri) (db : Db) (q : Bytes) (o : Opts S) :
    ∃ r, search T db q o = .ok r := by
  cases h : search T db q o with
  | ok r => exact ⟨r, rfl⟩
  | error e =>
    -- an error can only come out of the fallback's matcher, which does not panic
    obtain ⟨_, hfu⟩ := fallback_error (search_error h).2
    obtain ⟨r, hr⟩ := fuzzySearch_ok T hf db (T.normQ q) o (effLimit o)
    rw [hr] at hfu; cases hfu

/-- **Every fallback result is a genuine match.**  When nothing matches lexically and typo tolerance answers,
    each returned entry is a command of the database whose text (`command ++ " " ++ description`, NUL → space)
    contains the characters of `normQ q` in order ignoring case, whose library score `sc` (the score
    `fuzzy.Find` computes for that text) is at least the threshold when one is set (≠ 0), whose reported
    score is the normalisation of `sc`, and which passes the platform / pipeline gate (C04). -/
theorem genuine (T : Tuning S) (hf : FoldOK T.ri) (hs : SortOK T) (db : Db) (q : Bytes) (o : Opts S)
    (r : List (Nat × S))
    (hoff : search T db q { o with useFuzzy := false } = .ok [])
    (hon : search T db q { o with useFuzzy := true } = .ok r) :
    ∀ x ∈ r, ∃ c sc idxs, db[x.1]? = some c ∧
      matchOne T.ri (T.normQ q) (fuzzyTarget c) = .ok (some (sc, idxs)) ∧
      Occurs T.ri.eqFold (runes (T.normQ q)) (runes (fuzzyTarget c)) ∧
      (o.fuzzyThreshold ≠ 0 → o.fuzzyThreshold ≤ sc) ∧
      x.2 = normalizeFuzzy sc ∧
      passes T.ri T.host o.filter c = true := by
  rw [fallback_only_when_nothing T db q o hoff] at hon
  intro x hx
  obtain ⟨c, sc, idxs, hc, _, hm, hsub, hthr, hnorm, hp⟩ :=
    fuzzySearch_genuine T hf hs db (T.normQ q) { o with useFuzzy := true } (effLimit o) hon x hx
  exact ⟨c, sc, idxs, hc, hm, (subseqFold_iff _ _).mp hsub, hthr, hnorm, hp⟩

/-- `best_first` with `ms` tied to the library: `findNoSort`'s matches, sorted, `Kept`, cut at the limit (`fuzzyKept`) -/
theorem best_first_tied (T : Tuning S) (hs : SortOK T) (db : Db) (q : Bytes) (o : Opts S) (r : List (Nat × S))
    (hoff : search T db q { o with useFuzzy := false } = .ok [])
    (hon : search T db q { o with useFuzzy := true } = .ok r) :
    ∃ ms : List (Nat × Int), (∃ all, findNoSort T.ri (T.normQ q) (db.map fuzzyTarget) = .ok all ∧
        ms = fuzzyKept T db o (effLimit o) all) ∧
      r = ms.map (fun m => (m.1, normalizeFuzzy m.2)) ∧ ms.Pairwise (fun a b => a.2 ≥ b.2) := by
  rw [fallback_only_when_nothing T db q o hoff] at hon
  obtain ⟨all, hf, hr⟩ := fuzzySearch_inv hon
  exact ⟨_, ⟨all, hf, rfl⟩, hr, (hs all).2.sublist (fuzzyKept_sublist ..)⟩

/-- **Best match first.**  The fallback's answer lists its entries by non-increasing library score: it is
    the image, under the score normalisation, of a list of (command, library score) pairs sorted best first. -/
theorem best_first (T : Tuning S) (hs : SortOK T) (db : Db) (q : Bytes) (o : Opts S) (r : List (Nat × S))
    (hoff : search T db q { o with useFuzzy := false } = .ok [])
    (hon : search T db q { o with useFuzzy := true } = .ok r) :
    ∃ ms : List (Nat × Int), r = ms.map (fun m => (m.1, normalizeFuzzy m.2)) ∧
      ms.Pairwise (fun a b => a.2 ≥ b.2) :=
  let ⟨ms, _, h1, h2⟩ := best_first_tied T hs db q o r hoff hon; ⟨ms, h1, h2⟩

/-- the score normalisation `(sc + 100) / 100` clamped to [0, 1] is monotone.  This is arithmetic of the
    score type only; it is proved for every `ScoreLaws S` as `Wtf.Search.normalizeFuzzy_mono`
    (Proofs/C01Fuzzy.lean, built with C01), and kept as a named premise here so that this module does not
    depend on C01's. -/
def NormMono (S : Type) [ScoreOps S] : Prop :=
  ∀ a b : Int, a ≥ b → ScoreOps.lt (normalizeFuzzy a : S) (normalizeFuzzy b) = false

/-- … hence by non-increasing reported (normalised) score -/
theorem best_first_normalised (T : Tuning S) (hs : SortOK T) (hn : NormMono S) (db : Db) (q : Bytes) (o : Opts S)
    (r : List (Nat × S))
    (hoff : search T db q { o with useFuzzy := false } = .ok [])
    (hon : search T db q { o with useFuzzy := true } = .ok r) :
    r.Pairwise (fun a b => ScoreOps.lt a.2 b.2 = false) := by
  obtain ⟨ms, h1, h2⟩ := best_first T hs db q o r hoff hon
  subst h1
  rw [List.pairwise_map]
  exact h2.imp (fun {a b} hab => hn a.2 b.2 hab)

/-- **Completeness without a threshold.**  If no threshold is set, nothing matches lexically, and some
    command that passes the gate has the characters of the (non-empty) `normQ q` in order in its text, the
    search with typo tolerance does not come back empty. -/
theorem complete (T : Tuning S) (hf : FoldOK T.ri) (hs : SortOK T) (db : Db) (q : Bytes) (o : Opts S)
    (h0 : o.fuzzyThreshold = 0) (hq : T.normQ q ≠ [])
    (hoff : search T db q { o with useFuzzy := false } = .ok [])
    (hd : ∃ (i : Nat) (c : Cmd), db[i]? = some c ∧ passes T.ri T.host o.filter c = true ∧
      Occurs T.ri.eqFold (runes (T.normQ q)) (runes (fuzzyTarget c))) :
    ∃ r, search T db q { o with useFuzzy := true } = .ok r ∧ r ≠ [] := by
  rw [fallback_only_when_nothing T db q o hoff]
  obtain ⟨i, c, hc, hp, hocc⟩ := hd
  exact fuzzySearch_complete T hf hs db (T.normQ q) { o with useFuzzy := true } (effLimit o) (effLimit_pos o) h0 hq
    ⟨i, c, hc, hp, (subseqFold_iff _ _).mpr hocc⟩

/-- an empty (after normalisation) query has no fallback results — why `complete` needs `normQ q ≠ []` -/
theorem empty_query_no_fallback (T : Tuning S) (hs : SortOK T) (db : Db) (o : Opts S) (limit : Nat) :
    fuzzySearch T db [] o limit = .ok [] := by
  have : T.fuzzySort [] = [] := List.perm_nil.mp (hs []).1
  simp [fuzzySearch, findNoSort, this, fuzzyCollect]

section examples
open Example

/-- why the NUL guard exists: on a target that contains the rune 0 the library indexes past the pattern -/
example : outcome (matchOne {} (bs "a") [0x61, 0x00, 0x62]) = none := by decide +kernel
/-- … and the guarded target is fine -/
example : outcome (matchOne {} (bs "a") (nulToSpace [0x61, 0x00, 0x62])) = some (some (8, [0])) := by decide +kernel
/-- scores and matched indexes of the transliteration ("tk" in "The Black Knight": the second k is taken) -/
example : outcome (matchOne {} (bs "tk") (bs "The Black Knight")) = some (some (16, [0, 10])) := by decide +kernel
example : outcome (matchOne {} (bs "lst") (bs "ls -l lists")) = some (some (7, [0, 1, 9])) := by decide +kernel
example : outcome (matchOne {} (bs "xyz") (bs "ls -l lists")) = some none := by decide +kernel
/-- case folding both ways -/
example : subseqFold ({} : RuneInfo).eqFold (runes (bs "gst")) (runes (bs "Git STatus")) = true := by decide +kernel

def exDb : Db := [mk "git status" "show working tree status" [], mk "ls -l" "list files" [],
  mk "dir" "list directory" ["windows"]]

/-- the three groups of vectors below in one statement: the kernel builds the index of `exDb` once for all of them -/
theorem searchVectors :
    (ids (search (tuning) exDb (bs "status") opts) = some [0] ∧
      ids (search (tuning) exDb (bs "status") { opts with useFuzzy := true }) = some [0]) ∧
    (ids (search (tuning) exDb (bs "sttus") opts) = some [] ∧
      ids (search (tuning) exDb (bs "  STTUS ") { opts with useFuzzy := true }) = some [0]) ∧
    (ids (search (tuning) exDb (bs "lt") { opts with useFuzzy := true, fuzzyThreshold := -5 }) = some [] ∧
      ids (search (tuning) exDb (bs "lt") { opts with useFuzzy := true, fuzzyThreshold := -30 }) = some [1] ∧
      ids (search (tuning) exDb (bs "lt") { opts with useFuzzy := true, allPlatforms := true }) = some [1, 2]) := by
  decide +kernel

/-- an answer that exists is not touched: "status" matches lexically, with and without typo tolerance -/
example : ids (search (tuning) exDb (bs "status") opts) = some [0] ∧
    ids (search (tuning) exDb (bs "status") { opts with useFuzzy := true }) = some [0] := searchVectors.1
/-- nothing matches "sttus" lexically; the fallback finds the command whose text has s,t,t,u,s in order -/
example : ids (search (tuning) exDb (bs "sttus") opts) = some [] ∧
    ids (search (tuning) exDb (bs "  STTUS ") { opts with useFuzzy := true }) = some [0] := searchVectors.2.1
/-- thresholds: "lt" is a poor match of "ls -l list files" (score −9; "dir list directory": −11); −5 drops it, −30 keeps it -/
example : ids (search (tuning) exDb (bs "lt") { opts with useFuzzy := true, fuzzyThreshold := -5 }) = some [] ∧
    ids (search (tuning) exDb (bs "lt") { opts with useFuzzy := true, fuzzyThreshold := -30 }) = some [1] ∧
    ids (search (tuning) exDb (bs "lt") { opts with useFuzzy := true, allPlatforms := true }) = some [1, 2] :=
  searchVectors.2.2
/-- `FoldOK` is satisfiable: the example parameters have a good fold table (`SortOK`: `sortOK_modelledTuning`, Props/C07c.lean) -/
example : FoldOK (tuning).ri := by intro f hf; cases hf

end examples

end Wtf.C07
