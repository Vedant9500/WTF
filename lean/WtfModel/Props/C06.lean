import WtfModel.Proofs.C06Nlp
import WtfModel.Proofs.C06Search

/-!
  C06 — NLP enhancement never drops what the user typed.
  Property theorems, the sharpness witness and non-vacuity examples (helper lemmas: Proofs/C06Nlp.lean, Proofs/C06Search.lean).

  Quantification: every database, every query byte string, every option record, every value of the `Tuning`
  parameters (idf, Unicode facts, TF-IDF ranking, per-document NLP factors), every score type (no law of
  arithmetic is used), every `Nlp.Tables` value (so in particular the tables regenerated from the source) and
  every hint function.  `T.nlp` — what the engine receives from package nlp — stays abstract wherever the clause
  does not depend on its content; `NlpAgrees` links it to the executable model `Nlp.processQuery` where it does.
-/
namespace Wtf.C06
open Wtf.Nlp Wtf.Search Wtf.Text Wtf.Index

/-! ## The expanded term list (GetEnhancedKeywords) -/

theorem keywords_nodup (Tb : Tables) (ri : RuneInfo) (q : Bytes) : (processQuery Tb ri q).keywords.Nodup := by
  rw [processQuery_keywords]; exact nodup_dedup _

/-- The expanded list begins with the keywords extracted from the user's text, in the order ProcessQuery
    produced them, ahead of every hint, action, target and intent term — for ANY hint function. -/
theorem enhanced_prefix (Tb : Tables) (hints : Analysis → List Bytes) (ri : RuneInfo) (q : Bytes) :
    (processQuery Tb ri q).keywords <+: enhancedKeywords Tb hints (processQuery Tb ri q) :=
  keywords_prefix_enhanced Tb hints _ (keywords_nodup Tb ri q)

/-- … and contains no duplicates (for any analysis value, any hint function). -/
theorem enhanced_nodup (Tb : Tables) (hints : Analysis → List Bytes) (a : Analysis) :
    (enhancedKeywords Tb hints a).Nodup := nodup_dedup _

/-- Keywords come from the user's own text: each one is a word of the cleaned, lower-cased query that is neither a
    stop word nor an action word, or the first synonym of such a word that is not a target word either. -/
theorem keywords_from_text (Tb : Tables) (ri : RuneInfo) (q : Bytes) {k : Bytes}
    (hk : k ∈ (processQuery Tb ri q).keywords) :
    ∃ w ∈ words q, isStop Tb w = false ∧ assoc Tb.actions w = none ∧
      (k = w ∨ (assoc Tb.targets w = none ∧ ∃ rest, assoc Tb.synonyms w = some (k :: rest))) := by
  rw [processQuery_keywords, mem_dedup] at hk
  obtain ⟨w, hw, hkw⟩ := List.mem_flatMap.mp hk
  exact ⟨w, hw, mem_wordKeywords.mp hkw⟩

/-- The order, precisely: the keyword list is the list of first occurrences in the sequence
    `w₁, syn(w₁)?, w₂, syn(w₂)?, …` over the words of the query in the user's order (each kept word immediately
    followed by its first synonym when it has one and is not a target word); so it is a subsequence of that
    sequence. -/
theorem keywords_order (Tb : Tables) (ri : RuneInfo) (q : Bytes) :
    (processQuery Tb ri q).keywords = dedup ((words q).flatMap (wordKeywords Tb)) ∧
    ((processQuery Tb ri q).keywords).Sublist ((words q).flatMap (wordKeywords Tb)) :=
  ⟨processQuery_keywords Tb ri q, by rw [processQuery_keywords]; exact dedup_sublist _⟩

/-- Every content word the user typed (not a stop word, not an action word) is a keyword. -/
theorem user_words_kept (Tb : Tables) (ri : RuneInfo) (q : Bytes) {w : Bytes} (hw : w ∈ userKeywordWords Tb q) :
    w ∈ (processQuery Tb ri q).keywords := by
  rw [processQuery_keywords, mem_dedup]
  obtain ⟨hw1, hw2⟩ := List.mem_filter.mp hw
  simp only [Bool.and_eq_true, Bool.not_eq_true', Option.isNone_iff_eq_none] at hw2
  exact List.mem_flatMap.mpr ⟨w, hw1, mem_wordKeywords.mpr ⟨hw2.1, hw2.2, .inl rfl⟩⟩

/-- When no synonym is injected (every kept word is a target word or has no synonym entry) the keywords are exactly
    the user's content words, in the user's order, first occurrences. -/
theorem keywords_user_order (Tb : Tables) (ri : RuneInfo) (q : Bytes)
    (h : ∀ w ∈ userKeywordWords Tb q, assoc Tb.targets w ≠ none ∨ firstSynonym Tb w = []) :
    (processQuery Tb ri q).keywords = dedup (userKeywordWords Tb q) := by
  rw [processQuery_keywords]
  refine congrArg dedup (flatMap_eq_filter _ _ _ fun w hw => ?_)
  rw [wordKeywords_eq]
  split
  · -- a kept word: nothing follows it, since it is a target word or has no synonym
    rename_i hc
    rcases h w (List.mem_filter.mpr ⟨hw, hc⟩) with h1 | h2
    · rw [if_pos (Option.isSome_iff_ne_none.mpr h1)]
    · rw [h2, ite_self]
  · rfl

/-! ## Analysing the same text twice gives the same analysis -/

/-- The analysis is a function of (tables, Unicode facts, text): nothing else enters the model … -/
theorem analysis_function (Tb : Tables) (hints : Analysis → List Bytes) (ri : RuneInfo) {q₁ q₂ : Bytes}
    (h : q₁ = q₂) :
    processQuery Tb ri q₁ = processQuery Tb ri q₂ ∧
    enhancedKeywords Tb hints (processQuery Tb ri q₁) = enhancedKeywords Tb hints (processQuery Tb ri q₂) := by
  subst h; exact ⟨rfl, rfl⟩

/-- … and nothing else enters the code: the regenerated facts say that no function reachable from
    NewQueryProcessor / ProcessQuery / GetEnhancedKeywords inside package nlp ranges over a map, starts a goroutine,
    selects, or touches a package-level variable (Go's map iteration order is the only nondeterminism source
    there). -/
theorem no_hidden_order :
    Gen.NlpTables.orderSensitiveSites = [] ∧ Gen.NlpTables.packageVariables = [] := by decide

/-- Code-shape facts the model hard-codes, re-checked against the regenerated values: the order in which
    GetEnhancedKeywords builds the list, cleanQuery's two patterns, the closures of getCommandHints. -/
theorem source_shape :
    Gen.NlpTables.enhancedOrder = ["keywords", "hints", "ipconfig", "actions", "targets", "intent", "dedup"] ∧
    Gen.NlpTables.cleanPattern = "[^\\w\\s\\-.]" ∧ Gen.NlpTables.spacePattern = "\\s+" ∧
    Gen.Hints.hasActionFields.all (["Actions", "Targets", "Keywords"].contains ·) = true ∧
    Gen.Hints.hasTargetFields.all (["Actions", "Targets", "Keywords"].contains ·) = true ∧
    Gen.Hints.hasKeywordFields.all (["Actions", "Targets", "Keywords"].contains ·) = true := by decide +kernel

/-! ## The search terms (enhanceQueryWithNLP, selectTopTerms) -/

section terms
variable {S : Type} [ScoreOps S]

/-- If the merged term list fits under the cap, every user token is searched with (selection is the identity
    there, and the merge only appends). -/
theorem terms_superset (T : Tuning S) (idx : Index) (terms0 : List Token) (enh : List Bytes) (cap : Nat)
    (h : (enhanceTerms terms0 enh).length ≤ cap) :
    terms0 ⊆ selectTopTerms T idx (enhanceTerms terms0 enh) cap := by
  rw [selectTopTerms_small h]
  exact (enhanceTerms_prefix terms0 enh).subset

omit [ScoreOps S] in
/-- With the default cap (`TopTermsCap ≤ 0`) a query of at most ten content words always fits: the merge stops
    at `appendCap` = 8 terms, so the merged length is at most max(length, 8) ≤ 10. -/
theorem default_cap (o : Opts S) (terms0 : List Token) (enh : List Bytes)
    (hlen : terms0.length ≤ defaultTermCap) (hcap : o.topTermsCap ≤ 0) :
    (enhanceTerms terms0 enh).length ≤ effCap o := by
  have h := length_enhanceTerms_le terms0 enh
  have h8 : appendCap ≤ defaultTermCap := by decide
  rw [effCap_default hcap]
  omega

/-- Each of the first four content words is retained, however long the query is and whatever the cap:
    selectTopTerms keeps every distinct term among the first `preserveCount` = 4 positions unconditionally
    (`isOriginal`), even beyond `maxTerms`.  No side condition is forced by the proof. -/
theorem first_four (T : Tuning S) (idx : Index) (terms0 : List Token) (enh : List Bytes) (cap : Nat) :
    ∀ t ∈ terms0.take preserveCount, t ∈ selectTopTerms T idx (enhanceTerms terms0 enh) cap := by
  intro t ht
  exact selectTopTerms_first_four (take_subset_take_of_prefix (enhanceTerms_prefix terms0 enh) preserveCount ht)

/-- the same two facts at the level of SearchUniversal's own term list, NLP on or off -/
theorem user_terms_searched (T : Tuning S) (db : Db) (q : Bytes) (o : Opts S)
    (hlen : (tokenize (T.normQ q)).length ≤ defaultTermCap) (hcap : o.topTermsCap ≤ 0) :
    tokenize (T.normQ q) ⊆ searchTerms T db q o := by
  have hfit : (termsOf T q o).length ≤ effCap o := by
    rw [termsOf]
    cases pqOf T q o with
    | none => rw [effCap_default hcap]; exact hlen
    | some n => exact default_cap o _ _ hlen hcap
  rw [searchTerms, selectTopTerms_small hfit]
  exact (tokenize_prefix_termsOf T q o).subset

theorem first_four_searched (T : Tuning S) (db : Db) (q : Bytes) (o : Opts S) :
    ∀ t ∈ (tokenize (T.normQ q)).take preserveCount, t ∈ searchTerms T db q o := fun _ ht =>
  selectTopTerms_first_four (take_subset_take_of_prefix (tokenize_prefix_termsOf T q o) preserveCount ht)

/-! ## Candidates (result sets with enhancement off versus on) -/

/-- Turning enhancement on never loses a lexical match: for a query of at most ten content words, the default term
    cap, the typo fallback off and a limit of at least the database size, every command returned with `useNLP`
    off is returned with `useNLP` on.  `T.nlp` is arbitrary here. -/
theorem candidates_superset (T : Tuning S) (db : Db) (q : Bytes) (o : Opts S)
    (hlim : db.length ≤ effLimit o)
    (hlen : (tokenize (T.normQ q)).length ≤ defaultTermCap) (hcap : o.topTermsCap ≤ 0) :
    ∀ d ∈ ids (search T db q { o with useNLP := false, useFuzzy := false }),
      d ∈ ids (search T db q { o with useNLP := true, useFuzzy := false }) := by
  intro d hd
  rw [mem_ids_search T db q { o with useNLP := false, useFuzzy := false } rfl hlim] at hd
  rw [mem_ids_search T db q { o with useNLP := true, useFuzzy := false } rfl hlim]
  obtain ⟨t, ht, hh⟩ := hd
  -- off: the searched terms are among the user tokens; on: they contain the user tokens; a hit reads `o.filter` only
  exact ⟨t, user_terms_searched T db q { o with useNLP := true, useFuzzy := false } hlen hcap (selectTopTerms_subset ht), hh⟩

/-- Each of the first four content words still finds its documents with enhancement on (or off), for every query
    length and every term cap: with the typo fallback off and a limit of at least the database size, every
    gate-passing document that has a posting of one of those words (`Hits`) is in the answer. -/
theorem first_four_results (T : Tuning S) (db : Db) (q : Bytes) (o : Opts S) (hf : o.useFuzzy = false)
    (hlim : db.length ≤ effLimit o) :
    ∀ t ∈ (tokenize (T.normQ q)).take preserveCount, ∀ d, Hits T db (build db) o t d → d ∈ ids (search T db q o) := by
  intro t ht d hd
  rw [mem_ids_search T db q o hf hlim]
  exact ⟨t, first_four_searched T db q o t ht, hd⟩

/-! ## Link between the engine's NLP parameter and the analysis model -/

/-- the four list fields the engine reads, as computed by the model -/
def nlpOfModel (Tb : Tables) (ri : RuneInfo) (hints : Analysis → List Bytes) (nq : Bytes) :
    List Bytes × List Bytes × List Bytes × List Bytes :=
  let a := processQuery Tb ri nq
  (a.actions, a.targets, a.keywords, enhancedKeywords Tb hints a)

/-- The values the engine receives from package nlp (`T.nlp`, fed from the real code as oracle lines in the
    correspondence runs) are the model's.  Discharged by: the `nlp` correspondence domain (model = real
    ProcessQuery / GetEnhancedKeywords on generated sentences, exhaustively on all 1- and 2-word table queries in
    the thorough tier) and, on every case of the `search` stream of this property, by re-running the model on the
    very text of each oracle line (lib/props/c06.py). -/
def NlpAgrees (T : Tuning S) (Tb : Tables) (ri : RuneInfo) (hints : Analysis → List Bytes) : Prop :=
  ∀ nq, ((T.nlp nq).actions, (T.nlp nq).targets, (T.nlp nq).keywords, (T.nlp nq).enhanced) = nlpOfModel Tb ri hints nq

omit [ScoreOps S] in
/-- What the engine merges into the query begins with the user's keywords and has no duplicates. -/
theorem engine_enhanced_begins_with_keywords (T : Tuning S) (Tb : Tables) (ri : RuneInfo)
    (hints : Analysis → List Bytes) (h : NlpAgrees T Tb ri hints) (nq : Bytes) :
    (T.nlp nq).keywords <+: (T.nlp nq).enhanced ∧ (T.nlp nq).enhanced.Nodup ∧ (T.nlp nq).keywords.Nodup := by
  have := h nq
  simp only [nlpOfModel, Prod.mk.injEq] at this
  obtain ⟨_, _, hk, he⟩ := this
  rw [hk, he]
  exact ⟨enhanced_prefix Tb hints ri nq, enhanced_nodup Tb hints _, keywords_nodup Tb ri nq⟩

end terms


/-! ## Sharpness: the configuration the property does not speak about

  `terms_superset` needs the merged list to fit under the cap.  With a caller-supplied cap below 8 it need not:
  seven user words and cap 7 — one appended term makes eight, selection keeps the first four and the three
  rarest of the rest, and a fifth-or-later user word *that has postings* is displaced by the appended term.
  (The check runs such requests on the real engine and counts the lost matches as `excluded-config-lost-match`.) -/
section sharpness

/-- a toy score type for the witness below (selection only compares idf values) -/
local instance natScore : ScoreOps Nat :=
  { zero := 0, one := 1, add := (· + ·), sub := (· - ·), mul := (· * ·), div := (· / ·), lt := fun a b => decide (a < b),
    ofNat := id, ofQ := fun q => q.num.toNat / q.den }

def T0 : Tuning Nat :=
  { params := ⟨0, 0, 0, 0, 0, 0, 0, 0, 0, 0⟩, idf := fun n df => n - df, host := [], ri := {}, normQ := id,
    nlp := fun _ => { intentBoost := fun _ => 1, cascade := fun _ => 1 }, tfidf := none, fuzzySort := id }
def tk (n : Nat) : Bytes := [UInt8.ofNat n]
def idx0 : Index :=
  { postings := [], df := [(tk 1, 1), (tk 2, 1), (tk 3, 1), (tk 4, 1), (tk 5, 1), (tk 6, 1), (tk 7, 6), (tk 8, 1)], lens := [], n := 10 }
def user7 : List Bytes := [tk 1, tk 2, tk 3, tk 4, tk 5, tk 6, tk 7]

/-- seven user words, cap 7, one appended term: the seventh user word (document frequency 6) is not searched -/
theorem cap_seven_displaces_user_word :
    user7.length = 7 ∧ enhanceTerms user7 [tk 8] = user7 ++ [tk 8] ∧ look idx0.df (tk 7) = some 6 ∧
    tk 7 ∉ selectTopTerms T0 idx0 (enhanceTerms user7 [tk 8]) 7 ∧
    tk 7 ∈ selectTopTerms T0 idx0 user7 7 := by
  have h : enhanceTerms user7 [tk 8] = user7 ++ [tk 8] := by decide
  refine ⟨by decide, h, by decide, ?_, ?_⟩
  · rw [h]
    simp [selectTopTerms, scoreTermsAux, sortDesc, user7, tk, idx0, T0, look, preserveCount, Gen.SearchParams.preserveCount, List.mergeSort,
      List.MergeSort.Internal.splitInTwo, ScoreOps.lt]
  · simp [selectTopTerms, user7]

end sharpness

/-! ## Non-vacuity -/

section examples

/-- the constants the statements mention -/
example : defaultTermCap = 10 ∧ preserveCount = 4 := by decide  -- the two numbers the property itself names ("up to ten", "first four")

/-- one action word, one target word, one word with a synonym, a stop word, with the regenerated tables -/
def q1 : Bytes := ofStr "Compress the folders, print file!"

/-- the vectors below on `q1` in one statement: the kernel converts the regenerated tables and analyses `q1` once
    for all of them -/
private theorem q1Vectors :
    words q1 = [ofStr "compress", ofStr "the", ofStr "folders", ofStr "print", ofStr "file"] ∧
    (processQuery genTables {} q1).actions = [ofStr "compress", ofStr "archive", ofStr "zip", ofStr "tar"] ∧
    (processQuery genTables {} q1).targets = [ofStr "file", ofStr "document"] ∧
    (processQuery genTables {} q1).keywords =
      [ofStr "folders", ofStr "directories", ofStr "print", ofStr "cat", ofStr "file"] ∧
    enhancedKeywords genTables genHints (processQuery genTables {} q1) =
      (processQuery genTables {} q1).keywords ++
        [ofStr "tar", ofStr "zip", ofStr "gzip", ofStr "compress", ofStr "archive", ofStr "document"] := by decide +kernel

example : words q1 = [ofStr "compress", ofStr "the", ofStr "folders", ofStr "print", ofStr "file"] := q1Vectors.1

example : (processQuery genTables {} q1).actions = [ofStr "compress", ofStr "archive", ofStr "zip", ofStr "tar"] := q1Vectors.2.1
example : (processQuery genTables {} q1).targets = [ofStr "file", ofStr "document"] := q1Vectors.2.2.1
example : (processQuery genTables {} q1).keywords =
    [ofStr "folders", ofStr "directories", ofStr "print", ofStr "cat", ofStr "file"] := q1Vectors.2.2.2.1

/-- the expanded list of that query with the regenerated hint rules: the five keywords first, then hints
    (`tar zip gzip` from the compress rule), actions and targets -/
example : enhancedKeywords genTables genHints (processQuery genTables {} q1) =
    (processQuery genTables {} q1).keywords ++
      [ofStr "tar", ofStr "zip", ofStr "gzip", ofStr "compress", ofStr "archive", ofStr "document"] := q1Vectors.2.2.2.2

/-- a 12-word query: outside `default_cap`'s hypothesis, yet its first four words are always searched with -/
def long12 : List Bytes := (List.range 12).map (fun i => [UInt8.ofNat (97 + i), 0x7A])

example : long12.length = 12 ∧ ¬ long12.length ≤ defaultTermCap := by decide

example {S : Type} [ScoreOps S] (T : Tuning S) (idx : Index) (enh : List Bytes) (cap : Nat) :
    [0x64, 0x7A] ∈ selectTopTerms T idx (enhanceTerms long12 enh) cap :=
  first_four T idx long12 enh cap _ (by decide)

/-- a 10-word query under the default cap: every word is searched with, whatever is appended -/
example {S : Type} [ScoreOps S] (T : Tuning S) (idx : Index) (enh : List Bytes) (o : Opts S) (h : o.topTermsCap ≤ 0) :
    long12.take 10 ⊆ selectTopTerms T idx (enhanceTerms (long12.take 10) enh) (effCap o) :=
  terms_superset T idx _ enh _ (default_cap o _ enh (by decide) h)

end examples

end Wtf.C06
