import WtfModel.Gen.Bm25F
/-
  C03 / C01 — the BM25F formulas of the model are the source's formulas.

  `Gen/Bm25F.lean` is written by the translator (xlate/x_bm25f.go) from the bodies of `fieldBM25`, `termBM25F` and `bm25IDF`
  statement by statement on every run.  The theorems below are the proof obligations that tie the hand-written model
  (`Model/Index.lean`, used by every search theorem and by the driver) to them: equal by unfolding, for every score type.
  A changed operator, operand order, guard, constant or field pairing in the source changes the generated definitions and
  breaks `rfl`.  For `bm25IDF` the argument of `math.Log` is regenerated and shown to be ≥ 1 over the reals in the region the
  index asks for (`df ≤ N`; Props/C01d.lean), which is what the `idf ≥ 0` hypothesis of the C01 theorems rests on (`math.Log` itself is a
  parameter of the model: its real values are fed to the driver and monitored).
-/
namespace Wtf.C03

/-- the model's per-field BM25 is the source's `fieldBM25`, statement by statement -/
theorem fieldBM25_regenerated {S : Type} [ScoreOps S] : @Index.fieldBM25 S _ = @Gen.Bm25F.fieldBM25 S _ := rfl

/-- the model's `termBM25F` (sum over the four fields, each guarded by a positive term frequency, with the field's own length,
    average, weight and `b`) is the source's -/
theorem termBM25F_regenerated {S : Type} [ScoreOps S] : @Index.termBM25F S _ = @Gen.Bm25F.termBM25F S _ := rfl

end Wtf.C03
