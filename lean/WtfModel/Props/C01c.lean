import WtfModel.Props.C01b
import WtfModel.Proofs.GoSort

/-!
  C01, continued — the hypothesis "the fuzzy library's sort returns a score-sorted permutation" (`FuzzySortOK`, `hfz` of
  `universal_modelled`) is discharged.

  `github.com/sahilm/fuzzy` ends `Find` with `sort.Stable(matches)` where `Less(i, j) = Score[i] >= Score[j]` — not a
  strict order, so the documented contract of `sort.Stable` does not apply and the result is whatever the algorithm does.
  `Model/GoSort.lean` transliterates the algorithm (`stable`: insertion sort on blocks of 20, then `symMerge` passes with
  `rotate` / `swapRange`), `GoSort.fuzzyStable` is that algorithm with the library's `Less`, and `Proofs/GoSort.lean` proves
  that it permutes its input (for every `Less`) and that its output is ordered by non-increasing score (for every `Less`
  that is the non-strict version of a total preorder).  Tie: the `gosort` correspondence domain compares `fuzzyStable` with
  the real `sort.Stable` on `fuzzy.Matches` values and with `fuzzy.Find`; the search driver runs with `fuzzyStable` and
  compares every `fz` oracle line (Go's order of the matches of that case) with it.

  Still assumed by `universal_modelled_sorted`: `idf n df ≥ 0` for `df ≤ n` (math.Log of a number ≥ 1) and a non-negative
  similarity threshold (the code's is 0.01).
-/
namespace Wtf.C01
open Wtf.Search Wtf.LegacyEntry ScoreOps ScoreLaws

variable {S : Type} [ScoreOps S]

omit [ScoreOps S] in
/-- the sort contract holds for every parameter set whose `fuzzySort` is the modelled `sort.Stable` -/
theorem fuzzySortOK_of_goStable (T : Tuning S) (h : T.fuzzySort = GoSort.fuzzyStable) : FuzzySortOK T :=
  fun ms => h ▸ GoSort.fuzzyStable_contract ms

variable [ScoreLaws S]

/-- **C01, SearchUniversal, end to end over the modelled layers, the library's sort included**: `universal_modelled` with
    `fuzzySort := GoSort.fuzzyStable` (the model of `sort.Stable(matches)`, which is what the driver runs against the real
    code) and without the hypothesis about the sort.  Left: (1) `idf n df ≥ 0` for `df ≤ n`; (2) similarity threshold ≥ 0. -/
theorem universal_modelled_sorted (idf : Nat → Nat → S) (host : Bytes) (ri : RuneInfo) (normQ : Bytes → Bytes)
    (sqrt : S → S) (minSim : S) (idx? : Option (Tfidf.Index S)) (db : Db)
    (hidf : ∀ n df, df ≤ n → lt (idf n df) (zero : S) = false)
    (hmin : Nonneg minSim)
    (q : Bytes) (o : Opts S) (r : List (Nat × S))
    (h : search (modelledTuning idf host ri normQ GoSort.fuzzyStable sqrt minSim idx? db) db q o = .ok r) :
    r.length ≤ effLimit o ∧ (∀ x ∈ r, x.1 < db.length) ∧ (r.map (·.1)).Nodup ∧
    r.Pairwise (fun a b => lt a.2 b.2 = false) ∧ (∀ x ∈ r, Nonneg x.2) :=
  universal_modelled idf host ri normQ GoSort.fuzzyStable sqrt minSim idx? db hidf
    GoSort.fuzzyStable_contract hmin q o r h

omit [ScoreOps S] [ScoreLaws S] in
/-- **GetSuggestions** with the modelled sort: no suggestion twice when the candidate list has no word twice -/
theorem suggestions_sorted (T : Tuning S) (hs : T.fuzzySort = GoSort.fuzzyStable) (db : Db) (q : Bytes) (m : Int)
    (r : List Bytes) (h : getSuggestions T db q m = .ok r) :
    r.length ≤ (suggestMax m).toNat ∧ (∀ w ∈ r, w ∈ suggestionWords T.ri db) ∧
    ((suggestionWords T.ri db).Nodup → r.Nodup) :=
  let p := suggestions T db q m r h
  ⟨p.1, p.2.1, p.2.2 (fuzzySortOK_of_goStable T hs)⟩

/-- the sort the theorems above speak about, as a statement of its own: for every list of matches, a permutation,
    ordered by non-increasing score -/
theorem fuzzy_sort_contract (ms : List (Nat × Int)) :
    (GoSort.fuzzyStable ms).Perm ms ∧ (GoSort.fuzzyStable ms).Pairwise (fun a b => a.2 ≥ b.2) :=
  GoSort.fuzzyStable_contract ms

/-! ### non-vacuity and witnesses -/
section examples

/-- the tie order is the algorithm's, not a stable sort's: with the non-strict `Less` the insertion phase moves an element
    past its equals, so equal scores come out in REVERSE index order (a stable sort would give `[1, 3, 0, 2]`) -/
example : (GoSort.fuzzyStable [(0, 1), (1, 5), (2, 1), (3, 5)]).map (·.1) = [3, 1, 2, 0] := by decide +kernel

/-- … also beyond one block (45 matches: three insertion-sorted blocks, two `symMerge` passes with rotations) -/
example : (GoSort.fuzzyStable ((List.range 45).map (fun i => (i, ((i / 7 : Nat) : Int) % 2)))).map (·.1) =
    [41, 40, 39, 38, 37, 36, 35, 27, 26, 25, 24, 23, 22, 21, 13, 12, 11, 10, 9, 8, 7,
     44, 43, 42, 34, 33, 32, 31, 30, 29, 28, 20, 19, 18, 17, 16, 15, 14, 6, 5, 4, 3, 2, 1, 0] := by decide +kernel

end examples

/-! non-vacuity of `universal_modelled_sorted` (S := ℚ): same parameters as the example of `universal_modelled`, with the
    modelled sort; the search it speaks about returns something through the typo fallback -/
section examples_sorted_end_to_end

local instance : ScoreOps ℚ := fieldScoreOps ℚ
local instance : ScoreLaws ℚ := fieldScoreLaws ℚ

private def dbE : Db := [Example.mk "ls -la" "list files" [], Example.mk "tar czf x" "compress directory" [],
  Example.mk "cat x | grep y" "search text" [] true]
private def idfE : Nat → Nat → ℚ := fun n df => if df ≤ n then ((n - df : Nat) + 1 : ℚ) / ((df : ℚ) + 1) else 0
private def idxE : Tfidf.Index ℚ := Tfidf.build {} (fun _ _ => 1) (fun x => x) dbE
private def TE : Tuning ℚ :=
  modelledTuning idfE (Filters.bs "linux") {} (fun q => q) GoSort.fuzzyStable (fun x => x) (1 / 100) (some idxE) dbE

private theorem hidfE : ∀ n df, df ≤ n → ScoreOps.lt (idfE n df) (ScoreOps.zero : ℚ) = false := by
  intro n df h
  show decide (idfE n df < 0) = false
  simp only [idfE, h, ↓reduceIte, decide_eq_false_iff_not, not_lt]
  positivity

example : ∀ q o r, search TE dbE q o = .ok r →
    r.length ≤ effLimit o ∧ (∀ x ∈ r, x.1 < dbE.length) ∧ (r.map (·.1)).Nodup ∧ (∀ x ∈ r, Nonneg x.2) :=
  fun q o r h =>
    let p := universal_modelled_sorted idfE (Filters.bs "linux") {} (fun q => q) (fun x => x) (1 / 100) (some idxE) dbE hidfE
      hminE q o r h
    ⟨p.1, p.2.1, p.2.2.1, p.2.2.2.2⟩

end examples_sorted_end_to_end

section examples_fallback
open Example

private def TS : Tuning Q := { (tuning) with fuzzySort := GoSort.fuzzyStable }
private def dbS : Db := [mk "ls -la" "list files" [], mk "tar czf x" "compress directory" [], mk "zip" "zip things" [],
  mk "ls -la" "list files" []]

/-- the typo fallback over the modelled sort answers (kernel-evaluated on the core-only fraction type `Q`): "lt" matches
    nothing lexically; the fallback lists the matching commands best score first, and the two equal entries (same text,
    same score) in reverse database order -/
example : ids (search TS dbS (Filters.bs "lt") opts) = some [] ∧
    ids (search TS dbS (Filters.bs "lt") { opts with useFuzzy := true }) = some [3, 0] := by decide +kernel

end examples_fallback

end Wtf.C01
