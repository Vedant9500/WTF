import WtfModel.Proofs.ConcLru
import WtfModel.Proofs.LockDiscipline
import WtfModel.Gen.Lru

/-!
  C11 — concurrent searches are race-free and answer as if alone.

  What is proved here, and over what:

  * `discipline`, `lru_ops_atomic`, `search_writes_nothing` are statements about the CURRENT SOURCE: they
    are decided by evaluation on `Gen.LockFacts`, which the translator regenerates from /repo on every
    run (lock taken, fields read / written / accessed atomically per lock phase, helper calls, the
    closure of the operations C11 quantifies over, the shared-state write set of a search).
  * `mutex`, `linearizable`, `linearizable_lru`, `cached_hits_agree`, `search_alone`, `counter_*`
    are statements about the small-step MODEL of Model/Conc.lean, for every number of threads, every
    program and every interleaving.
  * NOT modelled: the Go memory model and scheduler (a critical section is a load step and a store
    step; instruction-level data-race freedom of the code rests on the lock discipline above plus
    the race-detector runs of the check, which are support, not proof); container/list, sync.RWMutex
    and sync/atomic are taken at their documented semantics.

  Scope.  C11 quantifies over SearchUniversal / cached search / monitored search / InvalidateCache /
  CleanupExpiredCache / GetCacheStats (+ the performance report) and Get / Put / Delete / Size / Stats
  (+ Keys / CleanupExpired / Clear / Capacity) on one LRU cache.  `Enable` (Manager, SearchCache,
  PerformanceMonitor) and `Collector.Reset` are NOT among them; they write plain fields that the
  operations above read without a lock.  That is recorded explicitly in
  `discipline_exceptions_documented` (and listed at run time by Audit/C11Exceptions.lean).
-/
namespace Wtf.C11
open Wtf.Conc Wtf.ConcLru Wtf.Lru Wtf.LockDiscipline
open Wtf.Gen.LockFacts (methods dbGuardFound dbUnguardedWrites dbGuardedWrites)

/-! ## 1. Lock discipline of the current source -/

/-- plain fields that some method OUTSIDE the scope of C11 writes while operations inside the scope
    read them without a lock -/
def documentedUnsynchronised : List (String × String) :=
  [("Manager", "enabled"), ("SearchCache", "enabled"), ("PerformanceMonitor", "enabled"),
   ("Collector", "counters"), ("Collector", "gauges"), ("Collector", "histograms"),
   ("Collector", "timers"), ("Collector", "startTime")]

/-- both sweeps of the regenerated table in one statement, so that the kernel evaluates what they share (the
    inlining of each method's helpers, `effPhases`, does not depend on the scope) once -/
theorem sweeps : violations methods true = [] ∧
    ∀ v ∈ violations methods false, (v.typ, v.field) ∈ documentedUnsynchronised := by decide +kernel

/-- Every method of the cache / metrics types that is reachable from the operations C11 quantifies
    over obeys the discipline (`UnitOK`): its lock protocol is regular (lock at top level, unlock
    deferred or on every path, nothing inside loops), every ordinary store to receiver state -- direct,
    through `list.MoveToFront/PushFront/Remove/Init`, `delete`, map stores, or through pointers read
    out of the receiver, in the method itself or in the lock-free helpers it calls -- happens under the
    exclusive lock, code that holds no lock reads only fields no operation in scope writes, and fields
    accessed through sync/atomic are accessed in no other way. -/
theorem discipline : Disciplined methods true ∧ violations methods true = [] :=
  ⟨disciplined_of_violations_nil sweeps.1, sweeps.1⟩

/-- The five mutating LRU operations take the exclusive lock; every LRU operation takes the lock,
    and is ONE critical section (exactly one locked phase: it never releases and re-acquires). -/
theorem lru_ops_atomic :
    (∀ n ∈ ["Get", "Put", "Delete", "Clear", "CleanupExpired"], lockOf methods "LRUCache" n = .exclusive) ∧
    (∀ n ∈ lruMethods, lockOf methods "LRUCache" n ≠ .none ∧
        (find methods "LRUCache" n).map lockedPhases = some 1 ∧
        (find methods "LRUCache" n).map (·.irregular) = some []) := by
  constructor <;> decide +kernel

/- The full-strength statement over ALL methods, `Disciplined methods false`, is FALSE on the current
   source (`example : ¬ Disciplined methods false := by decide` checks; it is not kept as a theorem
   because repairing `Enable` would then break this file).  The failing (method, rule, field) triples
   are printed by Audit/C11Exceptions.lean on every run and copied into the evidence file. -/

/-- Every failure of the discipline outside the scope of C11 concerns one of the documented fields (`Enable` writes the plain bool
    `enabled` that `Get`/`Put`/`IsEnabled`/`Record…` read without a lock; `Collector.Reset` replaces
    the registry maps whose headers `Counter`/`Gauge`/`Histogram`/`Timer` read before locking). -/
theorem discipline_exceptions_documented :
    ∀ v ∈ violations methods false, (v.typ, v.field) ∈ documentedUnsynchronised := sweeps.2

/-! ## 2. The lock model -/

/-- In every reachable state, a thread that holds the lock exclusively excludes every other holder
    (no hypothesis on the specification). -/
theorem mutex {σ ι ο : Type} (S : Spec σ ι ο) (s0 : σ) (progs : List (List ι)) (sched : List Nat)
    (t u : Nat) (htu : t ≠ u) :
    let s := exec S (init s0 progs) sched
    holdsExcl S (s.threads t) → ¬ holdsAny (s.threads u) := by
  intro s ht
  exact inv_mutex (inv_exec (inv_init S s0 progs) sched) htu ht

/-- ... and the lock word agrees with the threads: the writer field names the exclusive holder, the
    reader list the shared holders, and they are never both non-empty. -/
theorem lock_state {σ ι ο : Type} (S : Spec σ ι ο) (s0 : σ) (progs : List (List ι)) (sched : List Nat) :
    let s := exec S (init s0 progs) sched
    (∀ t, holdsExcl S (s.threads t) ↔ s.lock.writer = some t) ∧
    (∀ t, holdsShared S (s.threads t) ↔ t ∈ s.lock.readers) ∧
    (s.lock.writer ≠ none → s.lock.readers = []) := by
  have h := inv_exec (inv_init S s0 progs) sched
  exact ⟨fun t => (h.thr t).wr, fun t => (h.thr t).rd, h.wr_rd⟩

/-! ## 3. Linearizability -/

/-- GENERIC.  For every sequential specification `step`, every assignment of lock modes under which
    shared-mode operations do not change the object (`ReadersPure`: the discipline), every number of
    threads, every program and every interleaving: whenever no operation is pending, the history of
    completed operations has a sequential witness `w` --
      the same operations (a permutation),
      consistent with real time (if A returned before B was invoked, A is not after B),
      a legal run of `step` from the initial object with exactly the observed outputs --
    and the object is in the state that run ends in.  The linearization point is the commit step of
    the critical section. -/
theorem linearizable {σ ι ο : Type} (S : Spec σ ι ο) (hp : ReadersPure S) (s0 : σ)
    (progs : List (List ι)) (sched : List Nat) :
    let s := exec S (init s0 progs) sched
    Quiescent s →
    ∃ w, IsLinearization S.step s0 s.hist w ∧ (runSeq S.step s0 (w.map (·.op))).1 = s.obj := by
  intro s hq
  exact ⟨_, inv_linearization hp (inv_exec (inv_init S s0 progs) sched) hq⟩

section LRU
variable {κ ν : Type} [DecidableEq κ]

theorem mode_ne_shared {p : Int × Op κ ν} (hm : lruMethod p.2 ∈ ["Get", "Put", "Delete", "Clear", "CleanupExpired"]) :
    lruSpec.mode p ≠ .shared := by
  simp only [lruSpec, lruMode]
  rw [lru_ops_atomic.1 _ hm]
  exact fun h => nomatch h

/-- The discipline on the model side, discharged from the regenerated lock facts: every LRU operation
    for which the Go method takes only the shared lock leaves the model state unchanged.  (If `Get`
    took `RLock`, `lruMode (.get k)` would be `shared` and this would be false: `get` moves the entry.) -/
theorem lru_readers_pure : ReadersPure (lruSpec (κ := κ) (ν := ν)) := by
  -- `h` stays about `lruSpec.mode`: restating it with `lruMode` makes the unifier evaluate `lockOf` on the regenerated table
  intro ⟨now, op⟩ s h
  cases op with
  | get k | put k v | delete k | clear | cleanup => exact absurd h (mode_ne_shared (by simp [lruMethod]))
  | size => rfl
  | stats => rfl
  | keys => rfl

/-- THE LRU CACHE.  With the lock modes of the current source (`Gen.LockFacts`), for every requested
    capacity and lifetime, every clock reading inside the critical sections, every program and every
    interleaving: a complete history of Get / Put / Delete / Clear / CleanupExpired / Size / Stats /
    Keys is linearizable with respect to the sequential model `Wtf.Lru.step` of C12 (`Lru.run` is its
    fold), and the cache ends in the state of that sequential run. -/
theorem linearizable_lru (cap ttl : Int) (progs : List (List (Int × Op κ ν))) (sched : List Nat) :
    let s0 : State κ ν := Lru.init Wtf.Gen.Lru.defaultCapacity cap ttl
    let s := exec lruSpec (init s0 progs) sched
    Quiescent s →
    ∃ w : List (Rec (Int × Op κ ν) (Out κ ν)),
      w.Perm s.hist ∧
      w.Pairwise (fun a b => ¬ b.res < a.inv) ∧
      (Lru.run s0 (w.map (·.op))).2 = w.map (·.out) ∧
      (Lru.run s0 (w.map (·.op))).1 = s.obj := by
  intro s0 s hq
  obtain ⟨w, hw, hfin⟩ := linearizable lruSpec lru_readers_pure s0 progs sched hq
  refine ⟨w, hw.perm, hw.realtime, ?_, ?_⟩
  · rw [← runSeq_eq_run]; exact hw.legal
  · rw [← runSeq_eq_run]; exact hfin

/-- The cached search "answers as if alone" as far as the cache is concerned: if every completed `Put k v`
    stored `v = f k` (the search result the key stands for -- that the key determines the answer is
    C05), then in every complete concurrent history every `Get k` that hit returned `f k`. -/
theorem cached_hits_agree (f : κ → ν) (cap ttl : Int) (progs : List (List (Int × Op κ ν))) (sched : List Nat) :
    let s0 : State κ ν := Lru.init Wtf.Gen.Lru.defaultCapacity cap ttl
    let s := exec lruSpec (init s0 progs) sched
    Quiescent s → (∀ r ∈ s.hist, PutsAgree f r.op.2) →
    ∀ r ∈ s.hist, ∀ k v, r.op.2 = .get k → r.out = .val (some v) → v = f k := by
  intro s0 s hq hputs r hr
  obtain ⟨w, hperm, _, hleg, _⟩ := linearizable_lru cap ttl progs sched hq
  exact legal_gets_agree f (fun e he => by cases he) w hleg (fun x hx => hputs x (hperm.subset hx)) r
    (hperm.symm.subset hr)

/-- The executable checker run by the driver domain `linearize` accepts exactly the linearizable
    histories (for any sequential specification; the driver uses `Lru.step` with `keys` sorted). -/
theorem checker_correct {σ ι ο : Type} [DecidableEq ο] (step : σ → ι → σ × ο) (s0 : σ) (h : List (Rec ι ο)) :
    linearizable? step s0 h = true ↔ Linearizable step s0 h :=
  search_iff step _ s0 h (Nat.le_refl _)

end LRU

/-! ## 4. Searches on a loaded database -/

/-- THE CURRENT SOURCE: `SearchUniversal` starts with `if db.uIndex == nil || db.uIndex.N != len(db.Commands)
    { rebuild }`, and outside that block no function reachable from it stores to memory reachable from
    a `Database` (fields, index, TF-IDF tables, commands, embeddings) or to a package-level variable.
    On a loaded database (`uIndex ≠ nil ∧ N = len`) the guard is false, so a search writes nothing
    that another search can read. -/
theorem search_writes_nothing : dbGuardFound = true ∧ dbUnguardedWrites = [] ∧ dbGuardedWrites ≠ [] := by
  decide +kernel

/-- THE MODEL: readers that take no lock and read the database piecemeal (chunk by chunk, arbitrarily
    interleaved with each other and with every other operation).  If the other operations do not write
    the database (`hwr`, which is what `search_writes_nothing` says of the code on a loaded database),
    then after ANY schedule reader `t` holds exactly the chunks it would have read running alone:
    `readAlone db₀ n` for its own number `n` of steps.  Its answer, a function of those chunks, is
    therefore the one it returns when run alone, whatever the interleaving. -/
theorem search_alone {δ α ω : Type} (chunk : δ → Nat → α) (wr : ω → δ → δ) (hwr : ∀ w d, wr w d = d)
    (db0 : δ) (sched : List (RAct ω)) (t : Nat) :
    (rexec chunk wr ⟨db0, fun _ => []⟩ sched).got t = readAlone chunk db0 (countReads t sched) ∧
    (rexec chunk wr ⟨db0, fun _ => []⟩ sched).db = db0 := by
  have h := rexec_alone chunk wr hwr db0 ⟨db0, fun _ => []⟩ (fun _ => 0) rfl (fun _ => rfl) sched
  exact ⟨by simpa using h.2 t, h.1⟩

/-- The hypothesis is needed: with a search that lazily writes shared scratch state (`wr` not the
    identity) a reader can see a mixture no solitary run produces. -/
theorem search_torn_if_written :
    ∃ (chunk : Nat → Nat → Nat) (wr : Unit → Nat → Nat) (sched : List (RAct Unit)),
      ∀ k, (rexec chunk wr ⟨0, fun _ => []⟩ sched).got 0 ≠ readAlone chunk 0 k := by
  refine ⟨fun db _ => db, fun _ d => d + 1, [.read 0, .other (), .read 0], fun k h => ?_⟩
  -- the reader holds `[1, 0]`; alone on the database `0` it reads nothing but `0`
  cases k with
  | zero => cases h
  | succ k => cases List.head_eq_of_cons_eq (h : [1, 0] = 0 :: _)

/-! ## 5. Counters -/

/-- Atomic adds lose nothing, at any moment: value + what is still to be added = the total, for every
    interleaving (not only at the end). -/
theorem counter_no_loss (v0 : Int) (progs : List (List Int)) (sched : List Nat) :
    let c := (AtomicCounter.mk v0 progs).exec sched
    c.val + sumAll c.progs = v0 + sumAll progs :=
  AtomicCounter.exec_total _ _

/-- When all threads are done the counter equals the sum of all deltas ... -/
theorem counter_total (progs : List (List Int)) (sched : List Nat) :
    let c := (AtomicCounter.mk 0 progs).exec sched
    c.done → c.val = sumAll progs := by
  intro c hd
  have h : c.val + sumAll c.progs = 0 + sumAll progs := AtomicCounter.exec_total (AtomicCounter.mk 0 progs) sched
  rw [sumAll_done hd] at h
  omega

/-- ... in particular, with `Inc` only, the number of `Inc` calls. -/
theorem counter_total_inc (progs : List (List Int)) (hinc : ∀ p ∈ progs, ∀ d ∈ p, d = 1) (sched : List Nat) :
    let c := (AtomicCounter.mk 0 progs).exec sched
    c.done → c.val = ((progs.map List.length).sum : Nat) := by
  intro c hd
  rw [← sumAll_ones hinc]
  exact counter_total progs sched hd

/-- Without atomics (`c.value++` = load; store) an increment is lost under some interleaving. -/
theorem counter_lossy :
    ∃ (threads : List RacyThread) (sched : List Nat),
      let c := (RacyCounter.mk 0 threads).exec sched
      c.done ∧ c.val = 1 ∧ (threads.map (fun t => t.prog.sum)).sum = 2 := by
  refine ⟨[⟨[1], none⟩, ⟨[1], none⟩], [0, 1, 0, 1], ?_⟩
  decide +kernel

/-! ## 6. Non-vacuity -/

/-- Two threads, overlapping operations on a capacity-1 cache: thread 0 puts `a` while thread 1 puts
    `b` (evicting one of them) and then both read.  The schedule below interleaves the critical
    sections' surroundings; the run ends quiescent with four completed, overlapping operations. -/
def demoProgs : List (List (Int × Op Nat Nat)) :=
  [[(0, .put 1 10), (0, .get 1)], [(0, .put 2 20), (0, .size)]]

def demoSched : List Nat :=
  [0, 1, 0, 0, 1, 0, 0, 1, 1, 0, 1, 1, 1, 0, 0, 0, 1, 1, 0, 0, 0, 1, 1, 1, 1, 1]

def demo : Sys (State Nat Nat) (Int × Op Nat Nat) (Out Nat Nat) :=
  exec lruSpec (init (Lru.init Wtf.Gen.Lru.defaultCapacity 1 0) demoProgs) demoSched

example : demo.hist.length = 4 ∧ (demo.threads 0).prog = [] ∧ (demo.threads 1).prog = [] := by decide +kernel

/-- the two puts overlap in real time, and the reader of key 1 misses because the later put evicted it -/
example : demo.hist.map (fun r => (r.tid, r.inv, r.res)) = [(0, 0, 3), (1, 1, 5), (0, 6, 9), (1, 7, 11)] ∧
    demo.hist.map (·.out) = [.unit, .unit, .val none, .nat 1] ∧
    demo.trace.map (fun e => (e.tid, e.lin)) = [(0, 2), (1, 4), (0, 8), (1, 10)] := by decide +kernel

/-- the demo run is quiescent (so `linearizable_lru` applies to it non-vacuously) -/
example : Quiescent demo := by
  intro t
  match t with
  | 0 => rfl
  | 1 => rfl
  | t + 2 => rfl

example : linearizable? (lruSpec (κ := Nat) (ν := Nat)).step (Lru.init Wtf.Gen.Lru.defaultCapacity 1 0) demo.hist = true := by
  decide +kernel

/-- the checker rejects: a put that returned strictly before a get of the same key was invoked, cache
    large enough, no expiry -- yet the get missed -/
example : linearizable? (lruSpec (κ := Nat) (ν := Nat)).step (Lru.init Wtf.Gen.Lru.defaultCapacity 2 0)
    [⟨0, (0, .put 1 10), .unit, 0, 1⟩, ⟨1, (0, .get 1), .val none, 2, 3⟩] = false := by decide +kernel

/-- the same two operations overlapping: the miss is explained by ordering the get first -/
example : linearizable? (lruSpec (κ := Nat) (ν := Nat)).step (Lru.init Wtf.Gen.Lru.defaultCapacity 2 0)
    [⟨0, (0, .put 1 10), .unit, 0, 3⟩, ⟨1, (0, .get 1), .val none, 1, 2⟩] = true := by decide +kernel

/-- atomic counter: 3 threads, any order, nothing lost -/
example : ((AtomicCounter.mk 0 [[1, 1], [1], [1, 1, 1]]).exec [2, 0, 2, 1, 0, 2]).val = 6 := by decide +kernel

end Wtf.C11
