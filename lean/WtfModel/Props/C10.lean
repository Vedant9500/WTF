import WtfModel.Proofs.SearchPaths
import WtfModel.Proofs.Fallback
import WtfModel.Model.Legacy0

/-!
  C10 — no input crashes the engine.  Go's partial operations are explicit `Except` values in the model,
  and every model function is total (termination is checked by Lean for each definition).
  The theorems here locate the only panic the search model can raise, show its guard, and show that the
  legacy entry points' buffer sizing never asks for a negative or overflowing capacity.
  (That `search` never returns `.error _`, for every rune table with `C07.FoldOK`, is `no_panic` in Props/C07.lean.)
-/
namespace Wtf.C10
open Wtf.Search Wtf.Fuzzy Wtf.Legacy

/-- the typo fallback never hands the matcher a NUL byte -/
theorem fuzzy_target_nul_free (c : Cmd) : ∀ b ∈ fuzzyTarget c, b ≠ 0 :=
  C07.fuzzyTarget_bytes_ne_zero c

/-- result-buffer capacity: never negative, never above the database size, and the product
    `limit * mult` is formed only when it is at most `total` (so it cannot overflow) -/
theorem buffer_cap_safe (mult total limit : Int) (hm : 0 < mult) (ht : 0 ≤ total) :
    0 ≤ resultsBufferCap mult total limit ∧ resultsBufferCap mult total limit ≤ total ∧
    (¬(limit ≤ 0 ∨ limit > total / mult) → limit * mult ≤ total) := by
  -- the guard `limit ≤ total / mult` is `limit * mult ≤ total` (floor division by a positive number)
  have key : ¬(limit ≤ 0 ∨ limit > total / mult) → limit * mult ≤ total :=
    fun h => (Int.le_ediv_iff_mul_le hm).mp (by omega)
  unfold resultsBufferCap
  refine ⟨?_, ?_, key⟩
  · split
    · omega
    · rename_i h
      exact Int.le_of_lt (Int.mul_pos (by omega) hm)
  · split
    · omega
    · rename_i h
      exact key h

/-- … and it is the intended `min(total, limit*mult)` for every positive limit -/
theorem buffer_cap_exact (mult total limit : Int) (hm : 0 < mult) (ht : 0 ≤ total) (hl : 0 < limit) :
    resultsBufferCap mult total limit = min total (limit * mult) := by
  unfold resultsBufferCap
  split
  · rename_i h
    have : total < limit * mult := (Int.ediv_lt_iff_lt_mul hm).mp (by omega)
    omega
  · rename_i h
    have : limit * mult ≤ total := (Int.le_ediv_iff_mul_le hm).mp (by omega)
    omega

/-- why the NUL guard exists: a NUL inside a target makes the library index past the pattern -/
theorem nul_panics_matcher : matchOne {} [0x61] [0x61, 0x00, 0x62] = .error .indexOutOfRange := by rfl

/-- the only panic the search model can raise comes out of the typo fallback's matcher -/
theorem search_panic_only_from_matcher {S : Type} [ScoreOps S] (T : Tuning S) (db : Db) (q : Bytes) (o : Opts S)
    (e : Fuzzy.Panic) (h : search T db q o = .error e) :
    o.useFuzzy = true ∧ findNoSort T.ri (T.normQ q) (db.map fuzzyTarget) = .error e :=
  search_error_only_fuzzy T db q o e h

end Wtf.C10
