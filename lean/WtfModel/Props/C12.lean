import WtfModel.Proofs.LruHist
import WtfModel.Gen.Lru

/-!
  C12 — the result cache is a correct bounded LRU with a staleness limit.
  Property theorems only (helper lemmas live in Proofs/Lru*.lean).  All statements quantify over
  every key/value type, every requested capacity (incl. non-positive), every lifetime and every
  history of operations; `Gen.Lru.defaultCapacity` is regenerated from the source on every run.
-/
namespace Wtf.C12
open Wtf.Lru

variable {κ ν : Type} [DecidableEq κ]

abbrev D := Wtf.Gen.Lru.defaultCapacity

/-- the regenerated default capacity is usable -/
theorem default_capacity_pos : 0 < D := by decide

/-- Every reachable state satisfies the structural invariant used below (in particular: the list is
    strictly ordered by recency of use, most recent first). -/
theorem reachable_inv (cap ttl : Int) (hist : List (Int × Op κ ν)) :
    Inv (final (init D cap ttl : State κ ν) hist) :=
  run_inv (init_inv D default_capacity_pos cap ttl) hist

/-- Every reachable state: the capacity is the requested one (or the default for a non-positive
    request), never more entries than that, no key twice. -/
theorem bounded (cap ttl : Int) (hist : List (Int × Op κ ν)) :
    let s := final (init D cap ttl : State κ ν) hist
    s.cap = effCap D cap ∧ 0 < s.cap ∧ s.entries.length ≤ s.cap ∧ (s.entries.map (·.key)).Nodup := by
  have hi := reachable_inv cap ttl hist
  have hc := run_cap (init D cap ttl : State κ ν) hist
  exact ⟨hc.1, hi.capPos, hi.bounded, hi.nodup⟩

theorem effCap_spec (cap : Int) : (cap ≤ 0 → effCap D cap = D) ∧ (0 < cap → (effCap D cap : Int) = cap) := by
  unfold effCap
  constructor
  · intro h; simp [h]
  · intro h
    have : ¬ cap ≤ 0 := by omega
    simp only [this, ↓reduceIte]
    omega

/-- Inserting a new key into a full cache discards exactly one entry: the one used (read or written)
    longest ago; everything else is kept, in order, behind the new entry. -/
theorem victim {s : State κ ν} (hinv : Inv s) (now : Int) (k : κ) (v : ν)
    (habs : find? k s.entries = none) (hfull : s.entries.length = s.cap) :
    ∃ keep vic, s.entries = keep ++ [vic] ∧
      (put s now k v).entries = { key := k, val := v, created := now, stored := now, used := s.tick } :: keep ∧
      (∀ e ∈ s.entries, vic.used ≤ e.used) ∧
      (put s now k v).evictions = s.evictions + 1 := by
  have hne := hinv.ne_nil_of_full (Nat.le_of_eq hfull.symm)
  have hsplit := List.dropLast_concat_getLast hne
  rw [put_of_full habs (Nat.le_of_eq hfull.symm)]
  refine ⟨s.entries.dropLast, s.entries.getLast hne, hsplit.symm, List.dropLast_cons_of_ne_nil hne, ?_, rfl⟩
  intro e he
  have hpw := hinv.recency
  rw [← hsplit, List.map_append, List.pairwise_append] at hpw
  rw [← hsplit, List.mem_append] at he
  rcases he with he | he
  · exact Nat.le_of_lt (hpw.2.2 e.used (List.mem_map_of_mem he) _ (List.mem_singleton.mpr rfl))
  · rw [List.mem_singleton.mp he]; exact Nat.le_refl _

/-- With room left nothing is discarded; updating an existing key discards nothing either. -/
theorem no_eviction_unless_full {s : State κ ν} (now : Int) (k : κ) (v : ν) :
    (find? k s.entries = none → s.entries.length < s.cap →
      (put s now k v).entries = { key := k, val := v, created := now, stored := now, used := s.tick } :: s.entries ∧
      (put s now k v).evictions = s.evictions) ∧
    (∀ e, find? k s.entries = some e →
      (put s now k v).entries = { e with val := v, stored := now, used := s.tick } :: remove k s.entries ∧
      (put s now k v).evictions = s.evictions) := by
  constructor
  · intro habs hroom; rw [put_of_room habs hroom]; exact ⟨rfl, rfl⟩
  · intro e he; rw [put_of_present he]; exact ⟨rfl, rfl⟩

/-- A lookup that succeeds returns the value most recently stored under that key (and not deleted or
    cleared since), and — when a lifetime is configured and the clock is monotone — that value was
    stored no longer ago than the lifetime. -/
theorem latest_and_fresh (cap ttl : Int) (hist : List (Int × Op κ ν)) (t0 : Int) (hm : Mono t0 hist)
    (now : Int) (k : κ) (v : ν)
    (hget : (get (final (init D cap ttl : State κ ν) hist) now k).2 = some v) :
    ∃ t, latest hist (fun _ => none) k = some (v, t) ∧ (0 < ttl → now - t ≤ ttl) := by
  have hag : Agree (init D cap ttl : State κ ν) (fun _ => none) t0 := by
    intro e he; simp [init] at he
  obtain ⟨_, h⟩ := run_agree hag hist hm
  obtain ⟨e, hmem, hk, hv, hexp⟩ := get_some hget
  obtain ⟨a, b, _⟩ := h e hmem
  refine ⟨e.stored, by rw [← hk, ← hv]; exact a, ?_⟩
  intro hpos
  have httl : (final (init D cap ttl : State κ ν) hist).ttl = ttl := (run_cap _ hist).2
  rw [← Bool.not_eq_true, expired_iff, httl] at hexp
  omega

/-- A sweep removes only expired entries (a suffix of the recency list), reports how many it removed
    and touches nothing else. -/
theorem sweep_only_expired (s : State κ ν) (now : Int) :
    ∃ removed, s.entries = (cleanup s now).1.entries ++ removed ∧
      (cleanup s now).2 = removed.length ∧
      (∀ e ∈ removed, 0 < s.ttl ∧ s.ttl < now - e.created) ∧
      (cleanup s now).1.hits = s.hits ∧ (cleanup s now).1.misses = s.misses ∧
      (cleanup s now).1.evictions = s.evictions := by
  obtain ⟨kept, removed, hr, hc, hx⟩ := cleanup_spec s now
  rw [hc]
  refine ⟨removed, hr, rfl, fun e he => ?_, rfl, rfl, rfl⟩
  exact expired_iff.mp (hx e he)

/-- Hit / miss counters equal what the visible trace says happened since the last clear. -/
theorem stats_hits_misses (cap ttl : Int) (hist : List (Int × Op κ ν)) :
    let r := run (init D cap ttl : State κ ν) hist
    (r.1.hits, r.1.misses) = tally (0, 0) hist r.2 :=
  run_tally (init D cap ttl) hist

/-- The eviction counter grows by one exactly on an insertion of a new key into a full cache and is
    reset only by clear; the size statistic is the number of entries. -/
theorem stats_evictions_size {s : State κ ν} (h : Inv s) (now : Int) (op : Op κ ν) :
    (step s now op).1.evictions = (match op with | .clear => 0 | _ => s.evictions + evDelta s op) ∧
    (step s now .stats).2 = .stats s.hits s.misses s.evictions s.entries.length s.cap ∧
    (step s now .size).2 = .nat s.entries.length :=
  ⟨(step_fields s now op).2.2 h, rfl, rfl⟩

/-! Non-vacuity: concrete reachable states meeting the hypotheses above. -/

private def demo : State Nat Nat := final (init D 2 10) [(0, .put 1 10), (1, .put 2 20), (2, .get 1)]

example : find? 3 demo.entries = none ∧ demo.entries.length = demo.cap := by decide +kernel
example : (put demo 3 3 30).entries.map (·.key) = [3, 1] := by decide +kernel   -- key 2 (used longest ago) is the victim
example : (get (final (init D 2 10 : State Nat Nat) [(0, .put 1 10), (5, .put 1 11)]) 9 1).2 = some 11 := by decide +kernel
example : (get (final (init D 2 10 : State Nat Nat) [(0, .put 1 10)]) 11 1).2 = none := by decide +kernel
example : Mono 0 ([(0, .put 1 10), (5, .put 1 11)] : List (Int × Op Nat Nat)) := by simp [Mono]

end Wtf.C12
