import WtfModel.Proofs.C01Search
import WtfModel.Proofs.C01Legacy
import WtfModel.Proofs.C01Idf
import WtfModel.Proofs.ScoreField
import WtfModel.Gen.SearchParams
import WtfModel.Proofs.Boosts

/-!
  C01 — search returns a bounded, ranked, duplicate-free list of real entries.
  Property theorems only (helper lemmas live in Proofs/C01*.lean, Proofs/SearchBasic.lean).

  Every theorem quantifies over every score type satisfying `ScoreLaws` (every linearly ordered field:
  `fieldScoreLaws`), every database, query and option record (limits ≤ 0, 1..N, > N; every combination
  of the NLP / fuzzy / threshold / pipeline / platform / context-boost options — including negative,
  zero and huge boosts) and every value of the model's parameters (`Tuning`) satisfying `TuningWF`.
  Results are lists of (position in the database, score).

  "Finite": in an ordered field every element is finite, so that clause has no content here; on the
  real float64s it can only fail through overflow of a caller-supplied boost, and the monitor checks
  `IsInf`/`IsNaN` on every answer of every entry point for finite options (harness/mon_c01.go).

  The cached path (`CachedDatabase.SearchWithOptionsAndCache`) returns what `SearchUniversal` returned
  for an equivalent request: that is C05's theorem (`Wtf.C05.transparent`), under which the clauses below
  carry over verbatim; the cached entry point is also part of the monitor stream here.
-/
namespace Wtf.C01
open Wtf.Search Wtf.Legacy ScoreOps ScoreLaws

/-! ### the model's inline constants are the ones in the source (regenerated on every run)

  The definitions in `Model/Search.lean` and `Model/Legacy.lean` are the regenerated values (DESIGN 13.5d), so the
  conjuncts about them hold by unfolding; they are the place where the correspondence between the two name spaces is
  written down.  What is compared: the two regenerated copies of the fuzzy normalisation base, and the code-shape flags. -/

theorem params_match :
    Search.defaultLimit = Gen.SearchParams.defaultLimit ∧
    Search.defaultTermCap = Gen.SearchParams.defaultTermCap ∧
    Search.appendCap = Gen.SearchParams.appendCap ∧
    Search.preserveCount = Gen.SearchParams.preserveCount ∧
    Search.rerankMult = Gen.SearchParams.rerankMult ∧
    Search.rerankMin = Gen.SearchParams.rerankMin ∧
    Search.fuzzyMult = Gen.SearchParams.fuzzyMult ∧
    Search.fuzzyBase = (Gen.SearchParams.fuzzyBase : Int) ∧
    Gen.Constants.FuzzyNormalizationBase = ⟨(Gen.SearchParams.fuzzyBase : Int), 1⟩ ∧
    Search.actionEmphasis = Gen.SearchParams.actionEmphasis ∧
    Search.targetEmphasis = Gen.SearchParams.targetEmphasis ∧
    Search.coocFactor = Gen.SearchParams.coocFactor ∧
    Search.rerankAlpha = Gen.SearchParams.rerankAlpha ∧
    Search.rerankScale = Gen.SearchParams.rerankScale ∧
    Legacy.basicScore = Gen.SearchParams.recoveryBasicScore ∧
    Legacy.singleWordScore = Gen.SearchParams.recoverySingleWordScore ∧
    Legacy.partialScore = Gen.SearchParams.recoveryPartialScore ∧
    Legacy.cliMaxLimit = (Gen.SearchParams.cliMaxLimit : Int) ∧
    -- code shapes the model follows: final truncation, truncated typo fallback, clamp to [0,1],
    -- legacy default limit = constants.DefaultSearchLimit, stable sort + truncation, strategy order,
    -- recovered results cut to the limit in force
    (Gen.SearchParams.finalTruncation && Gen.SearchParams.fuzzyFallbackTruncated &&
     Gen.SearchParams.limitResultsTruncates && Gen.SearchParams.fuzzyClamped &&
     Gen.SearchParams.legacyDefaultIsConstant && Gen.SearchParams.legacySortsAndLimits &&
     Gen.SearchParams.sortAndLimitShape && Gen.SearchParams.recoveryOrder &&
     Gen.SearchParams.cliRecoveryTruncated && Gen.SearchParams.cliRecoveryFiltered &&
     Gen.SearchParams.filterResultsShape) = true := by
  decide +kernel

/-- the default limits are usable: `SearchUniversal` substitutes a positive number for a non-positive
    request, so do the legacy search and the CLI configuration -/
theorem default_limits_pos :
    0 < Gen.SearchParams.defaultLimit ∧ 0 < Gen.Constants.DefaultSearchLimit ∧
    0 < (Gen.SearchParams.configMaxResults : Int) := by decide

variable {S : Type} [ScoreOps S] [ScoreLaws S]

/-- **C01, SearchUniversal.**  Whatever path answers: at most the limit in force, only positions of
    the searched database, no position twice, scores in non-increasing order, all scores ≥ 0. -/
theorem universal (T : Tuning S) (hT : TuningWF T) (db : Db) (q : Bytes) (o : Opts S) (r : List (Nat × S))
    (h : search T db q o = .ok r) :
    r.length ≤ effLimit o ∧ (∀ x ∈ r, x.1 < db.length) ∧ (r.map (·.1)).Nodup ∧
    r.Pairwise (fun a b => lt a.2 b.2 = false) ∧ (∀ x ∈ r, Nonneg x.2) :=
  (search_post hT h).clauses

omit [ScoreOps S] [ScoreLaws S] in
/-- the limit in force: the requested one, or the default (10) when none / a non-positive one is given -/
theorem limit_in_force (o : Opts S) :
    (o.limit ≤ 0 → effLimit o = Gen.SearchParams.defaultLimit) ∧ (0 < o.limit → (effLimit o : Int) = o.limit) :=
  effLimit_spec o

/-- the BM25F parameters written in the source satisfy the `params` part of `TuningWF` -/
theorem source_params_sane : ParamsWF (Index.genParams : Index.Params S) := genParams_wf

/-- the `idf` part of `TuningWF` holds for the formula of `bm25IDF` over the reals (`math.Log` of a
    number ≥ 1), in the only region the index asks for (`df ≤ N`: `dfLeN_build`) -/
theorem idf_formula_nonneg (n df : Nat) (h : df ≤ n) :
    0 ≤ Real.log (((n : ℝ) - (df : ℝ) + 1 / 2) / ((df : ℝ) + 1 / 2) + 1) :=
  bm25_idf_real_nonneg n df h

/-- answers of the typo fallback additionally have scores ≤ 1 -/
theorem fuzzy_scores_unit_interval (T : Tuning S) (db : Db) (nq : Bytes) (o : Opts S) (limit : Nat)
    (r : List (Nat × S)) (h : fuzzySearch T db nq o limit = .ok r) :
    ∀ x ∈ r, Nonneg x.2 ∧ lt (one : S) x.2 = false := by
  obtain ⟨ms, _, rfl⟩ := fuzzySearch_inv h
  intro x hx
  obtain ⟨m, _, rfl⟩ := List.mem_map.mp hx
  exact ⟨normalizeFuzzy_nonneg _, normalizeFuzzy_le_one _⟩

omit [ScoreLaws S] in
/-- The only way the model of SearchUniversal fails (Go: panics) is inside the typo matcher; the
    strings it is given never contain NUL.  That the matcher cannot fail on such strings is C10. -/
theorem error_only_in_typo_matcher (T : Tuning S) (db : Db) (q : Bytes) (o : Opts S) (e : Fuzzy.Panic)
    (h : search T db q o = .error e) :
    o.useFuzzy = true ∧ Fuzzy.findNoSort T.ri (T.normQ q) (db.map fuzzyTarget) = .error e ∧
    ∀ t ∈ db.map fuzzyTarget, (0 : UInt8) ∉ t := by
  obtain ⟨h1, h2⟩ := search_error_only_fuzzy T db q o e h
  refine ⟨h1, h2, ?_⟩
  intro t ht
  rw [List.mem_map] at ht
  obtain ⟨c, _, rfl⟩ := ht
  exact fun h => C07.fuzzyTarget_bytes_ne_zero c 0 h rfl

omit [ScoreLaws S] in
/-- non-triviality: whenever some document scored, the answer is not empty -/
theorem nonempty_of_match (T : Tuning S) (db : Db) (q : Bytes) (o : Opts S) (r : List (Nat × S))
    (h : search T db q o = .ok r) (hterms : (termsOf T q o).isEmpty = false)
    (hsc : (scoresOf T db q o).isEmpty = false) : r ≠ [] := search_ne_nil h hsc

/-- The one stage of `applyPostScoringBoosts` that is not in the model — the embedding ("semantic") boost,
    active only when an embeddings file is loaded (none is shipped; C19) — has the shape "multiply every score
    by a per-document factor, re-sort stably, before the final truncation", which is the shape of the cascade
    stage.  Any stage of that shape with non-negative factors (`1 + α·sim`, applied only for `sim ≥ 0.1`)
    preserves all five clauses: -/
theorem factor_stage_preserves (n limit : Nat) (f : NlpOut S) (hf : f.FactorsNonneg) (r : List (Nat × S))
    (hids : (r.map (·.1)).Nodup ∧ ∀ x ∈ r, x.1 < n) (hnn : ∀ x ∈ r, Nonneg x.2) :
    let r' := (cascadeStage f r).take limit
    r'.length ≤ limit ∧ (∀ x ∈ r', x.1 < n) ∧ (r'.map (·.1)).Nodup ∧
    r'.Pairwise (fun a b => lt a.2 b.2 = false) ∧ (∀ x ∈ r', Nonneg x.2) := by
  rw [cascadeStage_eq]
  exact ((Cand.mk hids.1 hids.2 hnn).rescore
    (fun x hx => mul_nonneg _ _ (hnn x hx) (hf x.1).2)).sortDesc.post_take limit |>.clauses

/-- **C01, SearchWithPipelineOptions**, for every legacy scorer `score` (uninterpreted), no hypotheses. -/
theorem legacy_pipeline (ri : RuneInfo) (score : Nat → S) (db : Db) (o : Opts S) :
    let r := searchLegacyPipeline ri score db o
    r.length ≤ legacyLimit o.limit ∧ (∀ x ∈ r, x.1 < db.length) ∧ (r.map (·.1)).Nodup ∧
    r.Pairwise (fun a b => lt a.2 b.2 = false) ∧ (∀ x ∈ r, Nonneg x.2) :=
  (searchLegacyPipeline_post ri score db o).clauses

theorem legacy_limit_in_force (limit : Int) :
    (limit ≤ 0 → legacyLimit limit = Gen.Constants.DefaultSearchLimit.toNat) ∧
    (0 < limit → (legacyLimit limit : Int) = limit) := by
  unfold legacyLimit
  constructor
  · intro h; simp [h]
  · intro h
    have : ¬ limit ≤ 0 := by omega
    simp only [this, ↓reduceIte]
    omega

/-- **C01, `wtf [search]`.**  `0 < o.limit` is what the CLI always passes (`cli_limit_pos`); `cliResults_post` asks `0 ≤`. -/
theorem cli (T : Tuning S) (hT : TuningWF T) (db : Db) (q : Bytes) (o : Opts S) (hl : 0 < o.limit)
    (r : List (Nat × S)) (h : cliResults T db q o = .ok r) :
    r.length ≤ effLimit o ∧ (∀ x ∈ r, x.1 < db.length) ∧ (r.map (·.1)).Nodup ∧
    r.Pairwise (fun a b => lt a.2 b.2 = false) ∧ (∀ x ∈ r, Nonneg x.2) :=
  (cliResults_post hT (Int.le_of_lt hl) h).clauses

omit [ScoreLaws S] in
/-- every limit the CLI can put into `searchOptions.Limit` is positive, and cutting the recovered
    list never panics for it -/
theorem cli_limit_pos (flag l : Int) (h : cliLimit Gen.SearchParams.configMaxResults flag = some l) :
    0 < l ∧ ∀ (T : Tuning S) (db : Db) (q : Bytes) (o : Opts S), o.limit = l → cliResults T db q o ≠ .error .sliceBounds := by
  have hl := cliLimit_pos (by decide) h
  exact ⟨hl, fun T db q o ho => cliResults_no_slice_panic T db q o (by omega)⟩

/-- the raw recovery answer (before the CLI cuts it): valid, duplicate-free, in database order, one
    constant non-negative score — but *unbounded*, which is why the CLI step must cut it -/
theorem recovery_raw (ri : RuneInfo) (db : Db) (q : Bytes) :
    let r := recover (S := S) ri db q
    (∀ x ∈ r, x.1 < db.length) ∧ (r.map (·.1)).Pairwise (· < ·) ∧
    r.Pairwise (fun a b => lt a.2 b.2 = false) ∧ (∀ x ∈ r, Nonneg x.2) := by
  obtain ⟨p, s, hs, e⟩ := recover_eq_scan (S := S) ri db q
  rw [e]
  have h := ranked_scan p hs db
  exact ⟨h.real, scan_ids_lt p s db, h.sorted, h.nonneg⟩

/-! ### Non-vacuity: the hypotheses are satisfiable and answers are not always empty (S := ℚ) -/
section examples

local instance : ScoreOps ℚ := fieldScoreOps ℚ
local instance : ScoreLaws ℚ := fieldScoreLaws ℚ

private def bs (s : String) : Bytes := Bytes.ofString s

private def mk (cmd desc : String) (pipe : Bool := false) : Cmd :=
  { command := bs cmd, description := bs desc, keywords := [], tags := [], niche := [], platform := [],
    pipeline := pipe, commandLower := bs cmd, descriptionLower := bs desc, keywordsLower := [], tagsLower := [] }

private def db0 : Db := [mk "ls -la" "list files", mk "tar czf x" "compress directory", mk "cat x | grep y" "search text" true]

/-- a concrete parameter set: source BM25F parameters, a rational stand-in for idf, neutral NLP
    factors, a TF-IDF searcher that reports no similarity, a real stable sort for the fuzzy library's order -/
private def T0 : Tuning ℚ :=
  { params := Index.genParams
    idf := fun n df => if df ≤ n then ((n - df : Nat) + 1 : ℚ) / ((df : ℚ) + 1) else 0
    host := bs "linux"
    ri := {}
    normQ := fun q => q
    nlp := fun _ => { intentBoost := fun _ => 1, cascade := fun _ => 1 }
    tfidf := some (fun _ => [])
    fuzzySort := fun ms => ms.mergeSort (fun a b => decide (a.2 ≥ b.2)) }

private theorem T0_wf : TuningWF T0 where
  params := genParams_wf
  idf := by
    intro n df h
    show decide (T0.idf n df < 0) = false
    simp only [T0, h, ↓reduceIte, decide_eq_false_iff_not, not_lt]
    positivity
  nlp := fun _ _ => ⟨one_nonneg, one_nonneg⟩
  tfidf := by
    intro rank hr q x hx
    simp only [T0, Option.some.injEq] at hr
    subst hr; cases hx
  fuzzySort := fuzzySortOK_mergeSort

private def o0 : Opts ℚ := { limit := 0, pipelineBoost := 0 }

/-- the five vectors below that run `search T0 db0` in one statement: the kernel builds the index of `db0` once -/
theorem db0Vectors :
    ((match search T0 db0 (bs "compress") o0 with
    | .ok [(i, s)] => i == 1 && decide (0 < s)
    | _ => false) = true) ∧
    ((search T0 db0 (bs "list files") { o0 with useNLP := true, limit := 1 }).toOption.map (·.map (·.1)) = some [0]) ∧
    ((search T0 db0 (bs "cmprss") { o0 with useFuzzy := true }).toOption.map (·.map (·.1)) = some [1]) ∧
    (cliResults T0 db0 (bs "x") { o0 with limit := 1 } = .ok [(1, 1)]) ∧
    (cliResults T0 db0 (bs "x") { o0 with limit := -1 } = .error .sliceBounds) := by decide +kernel

-- lexical path: "compress" matches exactly one entry, which is returned with a positive score
example : (match search T0 db0 (bs "compress") o0 with
    | .ok [(i, s)] => i == 1 && decide (0 < s)
    | _ => false) = true := db0Vectors.1
-- … and the theorem applies to it
example : ∀ r, search T0 db0 (bs "compress") o0 = .ok r → r.length ≤ 10 ∧ (r.map (·.1)).Nodup :=
  fun r h => let p := universal T0 T0_wf db0 (bs "compress") o0 r h; ⟨p.1, p.2.2.1⟩
-- NLP on, limit 1
example : (search T0 db0 (bs "list files") { o0 with useNLP := true, limit := 1 }).toOption.map (·.map (·.1)) = some [0] := db0Vectors.2.1
-- typo fallback: no token matches, the fuzzy matcher finds the entry
example : (search T0 db0 (bs "cmprss") { o0 with useFuzzy := true }).toOption.map (·.map (·.1)) = some [1] := db0Vectors.2.2.1
-- legacy pipeline search with pipeline boost 2 and a scorer that likes entries 0 and 2: only the pipeline survives
example : searchLegacyPipeline (S := ℚ) {} (fun i => if i == 1 then 0 else 3) db0 { o0 with pipelineOnly := true, pipelineBoost := 2 } = [(2, 6)] := by
  decide +kernel
-- CLI: the engine finds nothing for "x" (no token, fuzzy off); the recovery search finds two commands, cut to limit 1
example : cliResults T0 db0 (bs "x") { o0 with limit := 1 } = .ok [(1, 1)] := db0Vectors.2.2.2.1
example : (recover (S := ℚ) {} db0 (bs "x")).length = 2 := by decide +kernel
-- a negative limit would make the CLI's slice expression panic; the CLI never passes one (`cli_limit_pos`)
example : cliResults T0 db0 (bs "x") { o0 with limit := -1 } = .error .sliceBounds := db0Vectors.2.2.2.2
example : cliLimit Gen.SearchParams.configMaxResults 0 = some 5 ∧ cliLimit Gen.SearchParams.configMaxResults 7 = some 7 ∧
    cliLimit Gen.SearchParams.configMaxResults (-1) = none := by decide +kernel

end examples

/-! ### The NLP layer is modelled: no hypothesis about the NLP factors is left

  `Boosts.nlpOut ri db nq` (Model/Boosts.lean over Model/Nlp.lean) is the model of what `SearchUniversal` obtains from
  package nlp and from `calculateIntentBoost` / `calculateBoostForCommand` for the normalised query `nq` on database `db`,
  with every table, literal and factor regenerated from the source on every run (`Gen/Boosts.lean`, `Gen/NlpTables.lean`,
  `Gen/Hints.lean`) and validated bit for bit against the real functions (correspondence domain `boosts`; the `search`
  driver runs with this NLP layer and compares it with the real values of every case).  For it the `nlp` field of
  `TuningWF` is a theorem (`Boosts.nlpOut_factorsNonneg`: intent boost > 0, cascading boost ≥ 1, proved from a decidable
  check of the regenerated factors), so the C01 clauses hold with the remaining four hypotheses only. -/

/-- `TuningWF` without its `nlp` field: BM25F parameters sane (proved for the source: `source_params_sane`), idf ≥ 0
    (`idf_formula_nonneg`), TF-IDF similarities ≥ 0, the fuzzy library's sort is a sorted permutation -/
structure TuningWFRest (T : Tuning S) : Prop where
  params : ParamsWF T.params
  idf : IdfNonneg T
  tfidf : TfidfNonneg T
  fuzzySort : FuzzySortOK T

/-- the regenerated boost rules are well formed: every multiplicative literal of the intent-boost functions is > 0, the
    cascading boost starts at a value ≥ 1 and adds literals ≥ 0 (re-evaluated by `decide` on every regeneration) -/
theorem boost_rules_wf : Boosts.genSpec.WF = true := Boosts.genSpec_wf

/-- for every database, query text, document and rune table: the modelled `calculateIntentBoost` is positive and the
    modelled `calculateBoostForCommand` is at least 1 -/
theorem modelled_factors (ri : RuneInfo) (db : Db) (nq : Bytes) (d : Nat) :
    Pos ((Boosts.nlpOut (S := S) ri db nq).intentBoost d) ∧ ge ((Boosts.nlpOut (S := S) ri db nq).cascade d) one :=
  Boosts.nlpOutWith_factors Boosts.genSpec Boosts.genSpec_wf ri db nq d

/-- a parameter set whose NLP layer is the modelled one for the searched database is well formed as soon as its other
    fields are -/
theorem tuningWF_of_modelled_nlp (T : Tuning S) (db : Db) (hnlp : T.nlp = Boosts.nlpOut T.ri db) (hR : TuningWFRest T) :
    TuningWF T where
  params := hR.params
  idf := hR.idf
  nlp := by intro q; rw [hnlp]; exact Boosts.nlpOut_factorsNonneg T.ri db q
  tfidf := hR.tfidf
  fuzzySort := hR.fuzzySort

/-- **C01, SearchUniversal, with the modelled NLP layer**: the five clauses, no hypothesis about NLP factors -/
theorem universal_modelled_nlp (T : Tuning S) (db : Db) (hnlp : T.nlp = Boosts.nlpOut T.ri db) (hR : TuningWFRest T)
    (q : Bytes) (o : Opts S) (r : List (Nat × S)) (h : search T db q o = .ok r) :
    r.length ≤ effLimit o ∧ (∀ x ∈ r, x.1 < db.length) ∧ (r.map (·.1)).Nodup ∧
    r.Pairwise (fun a b => lt a.2 b.2 = false) ∧ (∀ x ∈ r, Nonneg x.2) :=
  universal T (tuningWF_of_modelled_nlp T db hnlp hR) db q o r h

/-- **C01, `wtf [search]`, with the modelled NLP layer** -/
theorem cli_modelled_nlp (T : Tuning S) (db : Db) (hnlp : T.nlp = Boosts.nlpOut T.ri db) (hR : TuningWFRest T)
    (q : Bytes) (o : Opts S) (hl : 0 < o.limit) (r : List (Nat × S)) (h : cliResults T db q o = .ok r) :
    r.length ≤ effLimit o ∧ (∀ x ∈ r, x.1 < db.length) ∧ (r.map (·.1)).Nodup ∧
    r.Pairwise (fun a b => lt a.2 b.2 = false) ∧ (∀ x ∈ r, Nonneg x.2) :=
  cli T (tuningWF_of_modelled_nlp T db hnlp hR) db q o hl r h

/-! non-vacuity (S := ℚ).  The examples evaluate the *interpreter* on a small hand-written rule set and a hand-written
    analysis, so that they do not depend on the regenerated literals (a harmless change of a literal in the source must not
    break this file); that the regenerated rule set computes what the real functions compute is the `boosts` correspondence. -/
section examples_modelled

local instance : ScoreOps ℚ := fieldScoreOps ℚ
local instance : ScoreLaws ℚ := fieldScoreLaws ℚ

/-- the example parameter set with the modelled NLP layer for `db0`: the hypotheses of `universal_modelled_nlp` are satisfiable -/
private def T1 : Tuning ℚ := { T0 with nlp := Boosts.nlpOut T0.ri db0 }

private theorem T1_rest : TuningWFRest T1 := ⟨T0_wf.params, T0_wf.idf, T0_wf.tfidf, T0_wf.fuzzySort⟩

example : ∀ q o r, search T1 db0 q o = .ok r → r.length ≤ effLimit o ∧ ∀ x ∈ r, Nonneg x.2 :=
  fun q o r h => let p := universal_modelled_nlp T1 db0 rfl T1_rest q o r h; ⟨p.1, p.2.2.2.2⟩

open Wtf.Boost in
/-- a small rule set in the vocabulary of `Basic/BoostRule.lean` (shapes as in search.go / cascading_boost.go) -/
private def exSpec : Boosts.Spec :=
  { intentInit := ⟨1, 1⟩
    intentSwitch := [
      ("find", .block [.ite (.containsAny .cmd ["ls", "grep"]) (.ret ⟨2, 1⟩) .skip, .ret ⟨1, 1⟩]),
      ("create", .block [.ite (.containsAny .cmd ["make"])
          (.block [.set ⟨2, 1⟩, .ite (.and (.contains .cmd "makepkg") (.not (.contains .desc "package"))) (.mul ⟨3, 10⟩) .skip, .retBoost]) .skip,
        .ret ⟨1, 1⟩])]
    intentDefault := ⟨1, 1⟩
    actionBoosts := .block [.set ⟨1, 1⟩,
      .loop .actions (.block [
        .ite (.containsVar .cmd) (.mul ⟨3, 2⟩) (.ite (.containsVar .desc) (.mul ⟨13, 10⟩) .skip),
        .ite (.varEq "compress") (.ite (.containsAny .cmd ["tar"]) (.mul ⟨5, 2⟩) .skip) .skip]),
      .retBoost]
    targetBoosts := .block [.set ⟨1, 1⟩, .loop .targets (.ite (.containsVar .cmd) (.mul ⟨7, 5⟩) (.ite (.containsVar .desc) (.mul ⟨6, 5⟩) .skip)), .retBoost]
    cascadeInit := ⟨1, 1⟩
    cascadeTerms := [.hint ⟨6, 1⟩, .term .actionTerms ⟨3, 1⟩, .context ⟨5, 2⟩, .term .targetTerms ⟨2, 1⟩, .intent]
    hintMiss := ⟨0, 1⟩, termMiss := ⟨0, 1⟩, contextMiss := ⟨0, 1⟩
    intentNoEntry := ⟨0, 1⟩, intentHit := ⟨3, 2⟩, intentMiss := ⟨0, 1⟩
    intentKeywords := [("create", ["make", "new"])]
    knownContexts := ["git", "tar"]
    synonyms := [(bs "compress", [bs "zip", bs "archive"])] }

example : exSpec.WF = true := by decide +kernel

/-- a hand-written analysis: "list files" -/
private def exA : Nlp.Analysis := { actions := [bs "list"], targets := [bs "files"], keywords := [bs "files"], intent := bs "find" }
/-- … and "compress with tar" -/
private def exB : Nlp.Analysis := { actions := [bs "compress"], targets := [], keywords := [bs "tar"], intent := bs "general" }

-- intent find + command contains "ls": 2; action only in the description: 1.3; target only in the description: 1.2
example : Boosts.intentBoostWith (S := ℚ) exSpec {} (mk "ls -la" "list files") exA = 78 / 25 := by decide +kernel
-- nothing matches: exactly 1
example : Boosts.intentBoostWith (S := ℚ) exSpec {} (mk "tar czf x" "compress directory") exA = 1 := by decide +kernel
-- action in the command (1.5) and the compression special case (2.5)
example : Boosts.intentBoostWith (S := ℚ) exSpec {} (mk "tar czf x compress" "pack") exB = 15 / 4 := by decide +kernel
-- the makepkg penalty: 2 · 0.3, still positive
example : Boosts.intentBoostWith (S := ℚ) exSpec {} (mk "makepkg -s" "build it") { exA with intent := bs "create" } = 3 / 5 := by
  decide +kernel
-- cascading boost: hint `tar` via the first field (+6), synonym `archive` of the action in the text (+3), context `tar` (+2.5)
example : Boosts.cascadeBoostWith (S := ℚ) exSpec {} (mk "TAR czf x" "archive a folder")
    (Boosts.buildCtx exSpec {} exB [bs "tar", bs "zip"]) = 25 / 2 := by decide +kernel
-- … and exactly 1 when nothing matches
example : Boosts.cascadeBoostWith (S := ℚ) exSpec {} (mk "ls -la" "list files") (Boosts.buildCtx exSpec {} exB [bs "tar"]) = 1 := by
  decide +kernel
-- the general theorems apply to it
example : Pos (Boosts.intentBoostWith (S := ℚ) exSpec {} (mk "makepkg -s" "build it") exA) :=
  Boosts.intentBoostWith_pos exSpec (by decide) _ _ _

end examples_modelled

end Wtf.C01
