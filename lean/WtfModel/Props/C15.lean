import WtfModel.Proofs.RetryStored

/-!
  C15 — loading always ends with a usable database, without futile retries.

  Property theorems only.  The statements named without suffix are about `Retry.recover raw f backup`,
  the model of `recovery.NewDatabaseRecovery(raw).LoadDatabaseWithFallback(main, personal)`, and quantify
  over EVERY retry configuration `raw : RawCfg` (attempts, base delay, cap: any integers; factor: any
  rational, ±Inf or NaN), every state of the backup file, and either every pair of (main, notebook) file
  states (`static`) or every *sequence* of load attempts `f : Nat → Attempt` (which covers files that change
  between attempts).  No hypothesis on the configuration is needed since NewDatabaseRecovery sanitises it
  (`Retry.sanitize`, shape asserted by the translator).

  The decision table of NewDatabaseErrorWithContext, the predicates and types used by shouldRetry, the
  order of the fallback ladder, the embedded / minimal command lists and DefaultRetryConfig are
  regenerated from /repo into `Gen.Recovery` on every run; the theorems are re-checked against them.

  The `unsanitised_*` theorems after them are about the step functions applied to a configuration that
  did NOT pass through `sanitize`: they record why each clamp is needed.

  Assumptions of the model (not of the theorems): the database paths do not themselves contain one of the
  decision table's needles; float64 rounding in calculateDelay is not modelled (ℚ, then truncation; overflow
  of the power to +Inf is modelled at the threshold 2^1024).
-/
namespace Wtf.C15
open Wtf.Retry Wtf.Gen

/-! ### regenerated data -/

theorem embedded_nonempty : Recovery.embeddedCommands ≠ [] := Stored.embedded_nonempty

theorem minimal_nonempty : Recovery.minimalCommands ≠ [] := by decide

/-- `DefaultRetryConfig()` (what the CLI uses) is left untouched by the sanitisation -/
theorem default_config_ok :
    defaultCfg.maxAttempts = defaultRaw.maxAttempts ∧ defaultCfg.base = defaultRaw.base ∧
    defaultCfg.max = defaultRaw.max ∧ RawFactor.fin (match defaultCfg.factor with | .fin q => q | .posInf => 0) = defaultRaw.factor := by
  decide

/-- a sensible configuration is honoured as given -/
theorem sanitize_keeps_sane (raw : RawCfg) (q : Rat) (h1 : 1 ≤ raw.maxAttempts) (h2 : 0 ≤ raw.base) (h3 : 0 ≤ raw.max)
    (h4 : raw.factor = .fin q) (h5 : 1 ≤ q) :
    sanitize raw = { maxAttempts := raw.maxAttempts, base := raw.base, max := raw.max, factor := .fin q } := by
  have a : ¬ raw.maxAttempts < 1 := by omega
  have b : ¬ raw.base < 0 := by omega
  have c : ¬ raw.max < 0 := by omega
  simp [sanitize, a, b, c, h4, h5]

/-- every stored configuration permits an attempt and has non-negative, non-shrinking waits -/
theorem sanitize_sane (raw : RawCfg) : (sanitize raw).Sane := Retry.sanitize_sane raw

/-- whatever the backup file looks like, the ladder stops at a built-in, non-empty database -/
theorem fallback_builtin (backup : FileState) :
    ∃ c db, climb backup Recovery.ladder = some (c, db) ∧ db ≠ [] ∧
      ((c = .embedded ∧ db = Recovery.embeddedCommands) ∨ (c = .minimal ∧ db = Recovery.minimalCommands)) :=
  ⟨_, _, climb_ladder backup, embedded_nonempty, Or.inl ⟨rfl, rfl⟩⟩

/-! ### "ends with a searchable database and no error" -/

/-- For EVERY configuration, every sequence of load attempts and every backup state: no error, a
    database, and it is either what a load attempt returned (`real`) or a non-empty built-in list. -/
theorem total (raw : RawCfg) (f : Nat → Attempt) (backup : FileState) :
    let r := recover raw f backup
    r.err = none ∧ ∃ db, r.db = some db ∧
      ((r.cls = .real ∧ f r.attempts = .ok db) ∨
       (db ≠ [] ∧ ((r.cls = .embedded ∧ db = Recovery.embeddedCommands) ∨ (r.cls = .minimal ∧ db = Recovery.minimalCommands)))) :=
  Stored.total (sanitize raw) f backup (sanitize_sane raw).1

/-! ### "the real one whenever the main file loads and the notebook loads or is merely absent,
        a built-in fallback otherwise" -/

/-- main file loads, notebook loads: main entries followed by notebook entries, first attempt -/
theorem real (raw : RawCfg) (m p : List Cmd) (backup : FileState) :
    let r := recover raw (static (.good m) (.good p)) backup
    r.cls = .real ∧ r.db = some (m ++ p) ∧ r.err = none ∧ r.attempts = 1 ∧ r.delays = [] := by
  obtain ⟨h1, h2, h3, h4, _⟩ := Stored.first (sanitize raw) (static (.good m) (.good p)) backup (sanitize_sane raw).1
    (not_retryable_ok (lwp_good_good m p))
  exact ⟨(h4 _ (lwp_good_good m p)).1, (h4 _ (lwp_good_good m p)).2, h3, h1, h2⟩

/-- main file loads, notebook absent: the main entries, first attempt -/
theorem real_notebook_absent (raw : RawCfg) (m : List Cmd) (backup : FileState) :
    let r := recover raw (static (.good m) .missing) backup
    r.cls = .real ∧ r.db = some m ∧ r.err = none ∧ r.attempts = 1 ∧ r.delays = [] := by
  obtain ⟨h1, h2, h3, h4, _⟩ := Stored.first (sanitize raw) (static (.good m) .missing) backup (sanitize_sane raw).1
    (not_retryable_ok (lwp_good_missing m))
  exact ⟨(h4 _ (lwp_good_missing m)).1, (h4 _ (lwp_good_missing m)).2, h3, h1, h2⟩

/-- … and in no other case: if the answer is the real database then the main file loaded and the
    notebook loaded or was absent (so every other fault combination ends in the built-in fallback). -/
theorem real_only_if (raw : RawCfg) (main personal backup : FileState) :
    let r := recover raw (static main personal) backup
    r.cls = .real →
      ∃ m, main = .good m ∧ ((∃ p, personal = .good p ∧ r.db = some (m ++ p)) ∨ (personal = .missing ∧ r.db = some m)) := by
  intro r hr
  obtain ⟨_, db, hdb, h | h⟩ := total raw (static main personal) backup
  · obtain ⟨m, hm, h'⟩ := (lwp_ok_iff main personal db).mp h.2
    refine ⟨m, hm, ?_⟩
    rcases h' with ⟨p, hp, rfl⟩ | ⟨hp, rfl⟩
    · exact Or.inl ⟨p, hp, hdb⟩
    · exact Or.inr ⟨hp, hdb⟩
  · rcases h.2 with h' | h'
    · exact absurd (hr.symm.trans h'.1) nofun
    · exact absurd (hr.symm.trans h'.1) nofun

/-! ### "a missing or permission-denied file is tried once" -/

/-- main file missing or unreadable: one attempt, no sleep, built-in fallback — whatever the notebook -/
theorem once (raw : RawCfg) (main personal backup : FileState) (h : main.hopeless) :
    let r := recover raw (static main personal) backup
    r.attempts = 1 ∧ r.delays = [] ∧ r.cls ≠ .real ∧ r.err = none := by
  obtain ⟨e, he, hs⟩ := lwp_main_hopeless h personal
  obtain ⟨h1, h2, h3, _, h5⟩ := Stored.first (sanitize raw) (static main personal) backup (sanitize_sane raw).1
    (not_retryable_stop he hs)
  exact ⟨h1, h2, h5 e he, h3⟩

/-- the notebook beside a good main file: missing is tolerated (`real_notebook_absent`);
    permission-denied is an error that is not retried either -/
theorem once_notebook_denied (raw : RawCfg) (m : List Cmd) (backup : FileState) :
    let r := recover raw (static (.good m) .denied) backup
    r.attempts = 1 ∧ r.delays = [] ∧ r.cls ≠ .real ∧ r.err = none := by
  obtain ⟨e, he, hs⟩ := lwp_personal_denied m
  obtain ⟨h1, h2, h3, _, h5⟩ := Stored.first (sanitize raw) (static (.good m) .denied) backup (sanitize_sane raw).1
    (not_retryable_stop he hs)
  exact ⟨h1, h2, h5 e he, h3⟩

/-! ### "any other failure at most the configured number of times" -/

/-- the number of attempts permitted: the configured one, or 1 if that is not positive -/
def permitted (raw : RawCfg) : Nat := if raw.maxAttempts < 1 then 1 else raw.maxAttempts.toNat

theorem permitted_eq (raw : RawCfg) : (sanitize raw).maxAttempts.toNat = permitted raw := by
  simp only [sanitize, permitted]; split <;> simp

/-- at least one and never more attempts than configured — every sequence of attempts, every configuration -/
theorem at_most (raw : RawCfg) (f : Nat → Attempt) (backup : FileState) :
    1 ≤ (recover raw f backup).attempts ∧ (recover raw f backup).attempts ≤ permitted raw := by
  rw [← permitted_eq]
  refine ⟨?_, Stored.at_most (sanitize raw) f backup⟩
  rw [recover, (loadWithFallback_counts _ f backup).1]
  exact (loadWithRetry_spec _ f (sanitize_sane raw).1).ge

/-- a directory, a malformed file or any other read error (main file, or notebook beside a good main
    file) that persists is tried exactly the permitted number of times -/
theorem exactly_max (raw : RawCfg) (main personal backup : FileState)
    (h : main.retryable ∨ (∃ m, main = .good m) ∧ personal.retryable) :
    (recover raw (static main personal) backup).attempts = permitted raw := by
  rw [← permitted_eq]; exact Stored.exactly_max (sanitize raw) _ backup (sanitize_sane raw).1 fun _ => lwp_retryable h

/-! ### "with waits that never decrease and never exceed the configured maximum" -/

/-- For EVERY configuration: the sleeps are exactly calculateDelay(1), …, calculateDelay(attempts−1);
    they never decrease, are never negative and never exceed the configured maximum (0 if that is negative). -/
theorem delays (raw : RawCfg) (f : Nat → Attempt) (backup : FileState) :
    let r := recover raw f backup
    r.delays = (List.range' 1 (r.attempts - 1)).map (delayNs (sanitize raw)) ∧
    r.delays.Pairwise (· ≤ ·) ∧ (∀ d ∈ r.delays, 0 ≤ d ∧ d ≤ max raw.max 0) ∧ r.delays.length = r.attempts - 1 := by
  obtain ⟨h1, h2, h3⟩ := Stored.delays (sanitize raw) (sanitize_sane raw) f backup
  refine ⟨(Stored.delays_exact (sanitize raw) f backup (sanitize_sane raw).1).1, h1, ?_, h3⟩
  intro d hd
  have := h2 d hd
  have hm : (sanitize raw).max = max raw.max 0 := by
    simp only [sanitize]; split <;> omega
  rw [← hm]; exact this

/-! ### transient faults -/

/-- The files are broken in a retryable way for the first `k` attempts (`k` below the permitted number)
    and fine at attempt `k+1`: the real database is returned after exactly `k+1` attempts and `k` sleeps. -/
theorem transient (raw : RawCfg) (k : Nat) (hk : k < permitted raw)
    (mainAt personalAt : Nat → FileState) (m p : List Cmd) (backup : FileState)
    (hbad : ∀ n, 1 ≤ n → n ≤ k → (mainAt n).retryable ∨ (∃ m', mainAt n = .good m') ∧ (personalAt n).retryable)
    (hgood : mainAt (k + 1) = .good m)
    (hp : personalAt (k + 1) = .good p ∨ (personalAt (k + 1) = .missing ∧ p = [])) :
    let r := recover raw (dynamic mainAt personalAt) backup
    r.cls = .real ∧ r.db = some (m ++ p) ∧ r.err = none ∧ r.attempts = k + 1 ∧ r.delays.length = k := by
  have := permitted_eq raw
  exact Stored.transient (sanitize raw) k (by omega) mainAt personalAt m p backup hbad hgood hp

/-! ### why the clamps in NewDatabaseRecovery are needed: the step functions on a configuration that
        did not pass through `sanitize` -/

private theorem malformed_persists (personal : FileState) (n : Nat) : Retryable (static .malformed personal n) :=
  lwp_retryable (Or.inl (Or.inr (Or.inl rfl)))

/-- `MaxAttempts ≤ 0` stored unsanitised: no attempt is made and the caller receives a nil database with
    a nil error. -/
theorem unsanitised_nonpositive_max_attempts (cfg : Cfg) (h : cfg.maxAttempts ≤ 0) (f : Nat → Attempt) (backup : FileState) :
    let r := loadWithFallback cfg f backup
    r.db = none ∧ r.err = none ∧ r.attempts = 0 ∧ r.cls = .nildb := by
  have : cfg.maxAttempts.toNat = 0 := by omega
  simp [loadWithFallback, loadWithRetry, this, retryLoop]

/-- `BackoffFactor < 1` stored unsanitised (base, cap ≥ 0): the waits decrease -/
theorem unsanitised_factor_below_one :
    ∃ cfg : Cfg, 0 ≤ cfg.base ∧ 0 ≤ cfg.max ∧ cfg.factor = .fin (mkRat 1 2) ∧ 1 ≤ cfg.maxAttempts ∧
      (loadWithFallback cfg (static .malformed .missing) .missing).delays = [1000, 500] :=
  ⟨{ maxAttempts := 3, base := 1000, max := 5000, factor := .fin (mkRat 1 2) }, by decide, by decide, rfl, by decide, by
    rw [Stored.persistent_delays _ _ _ (by decide) (malformed_persists _)]; decide +kernel⟩

/-- `BaseDelay < 0` stored unsanitised (factor ≥ 1): the (negative) waits decrease -/
theorem unsanitised_negative_base :
    ∃ cfg : Cfg, cfg.base < 0 ∧ 0 ≤ cfg.max ∧ cfg.factor = .fin 2 ∧ 1 ≤ cfg.maxAttempts ∧
      (loadWithFallback cfg (static .malformed .missing) .missing).delays = [-1000, -2000] :=
  ⟨{ maxAttempts := 3, base := -1000, max := 5000, factor := .fin 2 }, by decide, by decide, rfl, by decide, by
    rw [Stored.persistent_delays _ _ _ (by decide) (malformed_persists _)]; decide +kernel⟩

/-- the same three configurations through NewDatabaseRecovery: one attempt at least, waits 1000, 1000 / 0, 0 -/
theorem sanitised_examples :
    (recover { maxAttempts := 0, base := 0, max := 0, factor := .nan } (static .malformed .missing) .missing).attempts = 1 ∧
    (recover { maxAttempts := 3, base := 1000, max := 5000, factor := .fin (mkRat 1 2) } (static .malformed .missing) .missing).delays = [1000, 1000] ∧
    (recover { maxAttempts := 3, base := -1000, max := 5000, factor := .fin 2 } (static .malformed .missing) .missing).delays = [0, 0] ∧
    -- zero base delay with a factor whose square overflows float64: 0, then the cap (NaN guard)
    (recover { maxAttempts := 4, base := 0, max := 3000, factor := .fin (10 ^ 200) } (static .malformed .missing) .missing).delays = [0, 0, 3000] := by
  refine ⟨?_, ?_, ?_, ?_⟩
  · rw [recover, Stored.exactly_max _ _ _ (sanitize_sane _).1 (malformed_persists _)]; rfl
  all_goals rw [recover, Stored.persistent_delays _ _ _ (sanitize_sane _).1 (malformed_persists _)]; decide +kernel

/-! ### non-vacuity -/

/-- the vectors below in one statement: the kernel searches the decision table's needles in the message of
    a parse error once for all of them -/
private theorem recoverVectors :
    (let r := recover defaultRaw (static .malformed (.good ["x"])) (.good ["b"])
     r.attempts = 3 ∧ r.delays = [100000000, 200000000] ∧ r.cls = .embedded ∧ r.err = none ∧
       r.db = some Recovery.embeddedCommands) ∧
    (recover defaultRaw (static .missing .missing) .missing).attempts = 1 ∧
    (recover defaultRaw (dynamic (fun n => if n ≤ 1 then .malformed else .good ["a"]) (fun _ => .good ["n"])) .missing).db
      = some ["a", "n"] := by decide +kernel

/-- the default configuration on a malformed main file: three attempts, waits 100 ms and 200 ms,
    the embedded database, no error -/
example :
    let r := recover defaultRaw (static .malformed (.good ["x"])) (.good ["b"])
    r.attempts = 3 ∧ r.delays = [100000000, 200000000] ∧ r.cls = .embedded ∧ r.err = none ∧
      r.db = some Recovery.embeddedCommands := recoverVectors.1

/-- a missing main file under the default configuration: one attempt -/
example : (recover defaultRaw (static .missing .missing) .missing).attempts = 1 := recoverVectors.2.1

/-- hypotheses of `transient` are satisfiable: malformed once, then good -/
example :
    (recover defaultRaw (dynamic (fun n => if n ≤ 1 then .malformed else .good ["a"]) (fun _ => .good ["n"])) .missing).db
      = some ["a", "n"] := recoverVectors.2.2

end Wtf.C15
