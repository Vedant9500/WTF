import WtfModel.Proofs.C03Search
import WtfModel.Proofs.C03State
import WtfModel.Proofs.C03Lower
import WtfModel.Gen.C03
import WtfModel.Gen.Bm25

/-!
  C03 — the inverted index answers exactly like an exhaustive scan of the commands, also after
  merge / replace / append.

  Property theorems and their non-vacuity examples (lemmas: Proofs/C03Index, C03Scan, C03Terms, C03Search, C03State, C03Lower).
  Everything is stated for *all* databases (any field contents, duplicates, empty fields, any bytes),
  all queries, all option records (per-term boosts included), all values of the parameters (`Tuning`:
  idf, BM25F parameters, host platform, Unicode tables, …) and over an *arbitrary* score type: no
  algebraic law is used, every score equation below is syntactic (same operations in the same order),
  so it holds verbatim for IEEE floats.

  What the theorems are about: the *indexed texts* of a command (`Cmd.cmdText`, `descText`, `keysText`,
  `tagsText` = the cached lower-case field when non-empty, else the raw field; keywords and tags joined
  by single spaces), tokenised by `tokenize`.  `tfOf c t`, `containsTerm c t`, `dfOf db t`,
  `scanPostings db t`, `docLens c` are defined from those token lists alone (Model/Index.lean, "scan
  specification") and never mention the index.  The link "indexed text = lower-cased raw field" is
  `loaded_caches_wf` + `indexed_tokens_ascii` (see there for the exact non-ASCII boundary).
-/
namespace Wtf.C03
open Wtf.Text Wtf.Index Wtf.Filters Wtf.Search Wtf.ScoreOps

variable {S : Type} [ScoreOps S]

/-! ## 0. regenerated code facts the statements below rest on -/

/-- The literals and code shapes of /repo, re-extracted on every run, are the ones the model uses:
    term cap 10, protected prefix 4, minimal token length 2, `minIDF = 0`, and index *and* re-ranker
    are (re)built by the lazy rebuild, by UpdateDatabase, by LoadDatabase and by the merge. -/
theorem code_facts :
    defaultTermCap = Gen.C03.termCap ∧ preserveCount = Gen.C03.preserve ∧ Gen.C03.minTokenLen = 2 ∧
    Gen.Bm25.minIDF = ⟨0, 1⟩ ∧
    Gen.C03.lazyRebuildCondition = true ∧ Gen.C03.lazyRebuildBoth = true ∧ Gen.C03.updateRebuildsBoth = true ∧
    Gen.C03.loadBuildsBoth = true ∧ Gen.C03.mergeBuildsBoth = true ∧ Gen.C03.mergeMainThenPersonal = true := by
  decide

/-! ## 1. the index is the scan -/

/-- Postings of a term = exactly the documents containing it in some field, in document order, each
    with its true per-field term frequencies (absent from the map iff no document contains it). -/
theorem postings (db : Db) (t : Token) :
    look (build db).postings t = if (scanPostings db t).isEmpty then none else some (scanPostings db t) :=
  (buildSpec_build db).postings t

/-- What `scanPostings` is: read at document `k` it has an entry iff command `k` contains the term,
    carrying the counts of the term in the four token lists; ids are strictly increasing. -/
theorem postings_meaning (db : Db) (t : Token) :
    (∀ k, (scanPostings db t).find? (·.doc == k) =
        match db[k]? with
        | some c => if containsTerm c t then some { doc := k, tf := tfOf c t } else none
        | none => none) ∧
    ((scanPostings db t).map (·.doc)).Pairwise (· < ·) ∧
    (scanPostings db t).length = dfOf db t :=
  ⟨find_scanPostings db t, scanPostingsAux_sorted 0 db t, scanPostings_length db t⟩

/-- Document frequency = number of documents containing the term (counted once per document). -/
theorem df (db : Db) (t : Token) :
    look (build db).df t = if dfOf db t = 0 then none else some (dfOf db t) :=
  (buildSpec_build db).df t

/-- Field lengths are attached to the right document: entry `i` is the four token counts of command `i`
    (counted after stop-word removal: `docLens` is defined from `tokenize`). -/
theorem lens (db : Db) : (build db).lens = db.map docLens := (buildSpec_build db).lens

theorem n (db : Db) : (build db).n = db.length := (buildSpec_build db).n

/-- The totals the average field lengths are computed from (`avg = float64(total) / float64(N)`,
    `avgOf`) are the plain sums of the per-document field lengths. -/
theorem totals (db : Db) :
    sumLens (build db).lens =
      { cmd := (db.map (fun c => c.cmdTokens.length)).sum, desc := (db.map (fun c => c.descTokens.length)).sum,
        keys := (db.map (fun c => c.keysTokens.length)).sum, tags := (db.map (fun c => c.tagsTokens.length)).sum } := by
  rw [lens, sumLens_spec]
  simp only [List.map_map]
  rfl

/-! ## 2. scores computed through the index = scores recomputed from the texts -/

/-- NLP-off path.  The score map built by calculateInitialScores through the index is, as a list
    (same entries, same order, the same arithmetic expression in every entry), the scan score map
    `scanScores`, which is defined without the index:
    * document `d` has an entry iff it exists, passes the platform / pipeline gate and contains a live
      query term (`scan_entry_iff`);
    * the value is the left fold over `terms`, in order and with multiplicity, of
      `acc ↦ add acc (mul (mul idf boost) (termBM25F params N totals (docLens c) (tfOf c t)))` over the
      terms the document contains, starting from `add zero x` (`scanStep`, `scanContrib`).
    The `idf < minIDF` gate of the code is part of the specification (`termLive`); with the shipped
    `minIDF = 0` it never fires (`scores_minIdfOff`). -/
theorem scores_eq_scan (T : Tuning S) (db : Db) (o : Opts S) (terms : List Token) :
    initialScores T db (build db) o none terms = scanScores T db o terms :=
  initialScores_eq_scanScores T db (build db) (buildSpec_build db) o terms

/-- The same, entry by entry, for any per-term boost table (also the NLP one). -/
theorem scores_lookup (T : Tuning S) (db : Db) (o : Opts S) (pq : Option (NlpOut S)) (terms : List Token) (d : Nat) :
    List.lookup d (initialScores T db (build db) o pq terms) =
      match db[d]? with
      | some c => if passes T.ri T.host o.filter c then scanScore T db (termBoosts o pq) terms c else none
      | none => none :=
  lookup_initialScores T db (build db) (buildSpec_build db) o pq terms d

theorem scan_entry_iff (T : Tuning S) (db : Db) (o : Opts S) (terms : List Token) (d : Nat) :
    (scanEntry T db o terms d).isSome = true ↔
      ∃ c, db[d]? = some c ∧ passes T.ri T.host o.filter c = true ∧
        ∃ t ∈ terms, containsTerm c t = true ∧ termLive T db t = true := by
  unfold scanEntry
  cases hdb : db[d]? with
  | none => simp
  | some c =>
    simp only [Option.some.injEq, exists_eq_left']
    by_cases hp : passes T.ri T.host o.filter c = true
    · simp only [hp, ↓reduceIte, true_and, scanScore_isSome]
    · simp [hp]

/-- the `idf < minIDF` gate never fires.  Discharged for the real parameters by: `minIDF = 0`
    (`code_facts`, regenerated) and `bm25IDF(N, df) = log((N - df + 0.5)/(df + 0.5) + 1) ≥ 0` for
    `df ≤ N`; the C01 monitor (class `oracle-negative-factor`, harness/mon_c01.go) checks `idf(N, df) ≥ 0` for every
    `df ≤ N` of every database it sees, and the reference scorer of the C03 monitor has no idf threshold, so a gate
    that fired would show as `candidate-set-differs` / `score-differs`. -/
def MinIdfOff (T : Tuning S) : Prop := ∀ n df, lt (T.idf n df) T.params.minIDF = false

/-- With the gate off the scan score is the plain BM25F sum over the contained terms. -/
theorem scores_minIdfOff (T : Tuning S) (hmin : MinIdfOff T) (db : Db) (tb : List (Bytes × S)) (c : Cmd)
    (acc : Option S) (t : Token) :
    scanStep T db tb c acc t =
      if containsTerm c t then some (add (acc.getD zero) (scanContrib T db tb c t)) else acc :=
  scanStep_live T db (by rw [termLive, hmin]; rfl) tb c acc

/-! ## 3. what a search returns (the property's first sentence) -/

/-- The gate off only at the pairs `(N, df)` this database produces (`termLive`): there `df ≤ N` and the source's `bm25IDF`
    is non-negative, while `MinIdfOff` asks it of all pairs and at `(0, 10)` the formula is negative. -/
theorem candidates_exact_live (T : Tuning S) (db : Db) (q : Bytes) (o : Opts S)
    (hn : o.useNLP = false) (hf : o.useFuzzy = false) (hlim : db.length ≤ effLimit o) (hlive : ∀ t, termLive T db t = true) :
    ∃ res, search T db q o = .ok res ∧ (res.map (·.1)).Nodup ∧
      ∀ d, d ∈ res.map (·.1) ↔
        ∃ c, db[d]? = some c ∧ passes T.ri T.host o.filter c = true ∧
          ∃ t ∈ selectTopTerms T (build db) (tokenize (T.normQ q)) (effCap o), containsTerm c t = true := by
  obtain ⟨res, h1, hnd, h⟩ := search_off_ids T db q o hn hf hlim
  refine ⟨res, h1, hnd, fun d => ?_⟩
  rw [h, scan_entry_iff]
  simp only [hlive, and_true]

/-- With NLP expansion (and the typo fallback) off and a limit that does not cut, the commands
    returned are exactly the filter-eligible commands one of whose four fields contains at least one
    of the query's used content words. -/
theorem candidates_exact (T : Tuning S) (db : Db) (q : Bytes) (o : Opts S)
    (hn : o.useNLP = false) (hf : o.useFuzzy = false) (hlim : db.length ≤ effLimit o) (hmin : MinIdfOff T) :
    ∃ res, search T db q o = .ok res ∧ (res.map (·.1)).Nodup ∧
      ∀ d, d ∈ res.map (·.1) ↔
        ∃ c, db[d]? = some c ∧ passes T.ri T.host o.filter c = true ∧
          ∃ t ∈ selectTopTerms T (build db) (tokenize (T.normQ q)) (effCap o), containsTerm c t = true :=
  candidates_exact_live T db q o hn hf hlim fun t => by rw [termLive, hmin]; rfl

/-- The same without assuming anything about idf: the `idf < minIDF` gate stays in the statement. -/
theorem candidates_exact_general (T : Tuning S) (db : Db) (q : Bytes) (o : Opts S)
    (hn : o.useNLP = false) (hf : o.useFuzzy = false) (hlim : db.length ≤ effLimit o) :
    ∃ res, search T db q o = .ok res ∧
      ∀ d, d ∈ res.map (·.1) ↔
        ∃ c, db[d]? = some c ∧ passes T.ri T.host o.filter c = true ∧
          ∃ t ∈ selectTopTerms T (build db) (tokenize (T.normQ q)) (effCap o),
            containsTerm c t = true ∧ termLive T db t = true := by
  obtain ⟨res, h1, _, h⟩ := search_off_ids T db q o hn hf hlim
  exact ⟨res, h1, fun d => (h d).trans (scan_entry_iff ..)⟩

/-- Every score a lexical search returns (any limit) is the scan score of that command — the
    field-weighted BM25F sum recomputed from the command's texts — multiplied by the pipeline boost
    when the command is a pipeline command and a positive boost is requested (`pipeAdj`). -/
theorem result_scores (T : Tuning S) (db : Db) (q : Bytes) (o : Opts S)
    (hn : o.useNLP = false) (hf : o.useFuzzy = false) :
    ∃ res, search T db q o = .ok res ∧
      ∀ d s, (d, s) ∈ res → ∃ c s0, db[d]? = some c ∧ passes T.ri T.host o.filter c = true ∧
        scanScore T db o.boosts (selectTopTerms T (build db) (tokenize (T.normQ q)) (effCap o)) c = some s0 ∧
        s = pipeAdj T o c s0 := by
  rw [search_eq, fallback_off hf]
  cases hl : lexical T db q o with
  | none => exact ⟨[], rfl, fun d s h => by cases h⟩
  | some r =>
    refine ⟨r, rfl, fun d s hds => ?_⟩
    obtain ⟨_, rfl⟩ := lexical_some hl
    rw [pqOf_off hn, scoresOf_off T db q hn] at hds
    -- with NLP off only the pipeline boost is applied after scoring
    obtain ⟨s0, c, hm, hc, hs⟩ := mem_lexicalTail hds
    simp only [postScore, hn, Bool.false_eq_true, if_false] at hs
    obtain ⟨c', hc', hp, hsc⟩ := scan_of_mem_scores T db o none _ hm
    rw [hc] at hc'; cases hc'
    exact ⟨c, s0, hc, hp, hsc, hs⟩

/-! ## 4. which content words are used -/

/-- A query of at most `cap` content words is used completely … -/
theorem terms_small (T : Tuning S) (idx : Index) (nq : Bytes) (o : Opts S)
    (h : (tokenize nq).length ≤ effCap o) : selectTopTerms T idx (tokenize nq) (effCap o) = tokenize nq :=
  selectTopTerms_small h

omit [ScoreOps S] in
/-- … and by default `cap` is ten. -/
theorem default_cap (o : Opts S) (h : o.topTermsCap ≤ 0) : effCap o = 10 :=
  effCap_default h

/-- For longer queries each of the first four content words is still used (a word that repeats an
    earlier one is used once; a word absent from the index is kept too) … -/
theorem terms_first_four (T : Tuning S) (idx : Index) (nq : Bytes) (o : Opts S) :
    ∀ t ∈ (tokenize nq).take 4, t ∈ selectTopTerms T idx (tokenize nq) (effCap o) :=
  fun _ => selectTopTerms_first_four

/-- … nothing but words of the query is used, and at most `max cap 4` of them (the protected prefix
    wins over a requested cap below four). -/
theorem terms_bound (T : Tuning S) (idx : Index) (nq : Bytes) (o : Opts S) :
    (∀ t ∈ selectTopTerms T idx (tokenize nq) (effCap o), t ∈ tokenize nq) ∧
    (selectTopTerms T idx (tokenize nq) (effCap o)).length ≤ max (effCap o) 4 :=
  ⟨fun _ => selectTopTerms_subset, selectTopTerms_length (effCap_pos o)⟩

/-! ## 5. the index and the re-ranker never lag behind the commands -/

omit [ScoreOps S] in
/-- In every state reachable from an empty database through any history of
    load / load-with-personal / UpdateDatabase / direct growth / search operations, the lazy rebuild
    at the top of SearchUniversal leaves: index = `build (current commands)` and re-ranker built from
    the current commands. -/
theorem fresh (ri : RuneInfo) (ops : List (Op S)) (hops : ∀ op ∈ ops, op.InScope) :
    let s := DbState.run ri DbState.init ops
    s.refresh = DbState.built s.cmds :=
  DbState.refresh_of_inv (DbState.inv_run ri DbState.inv_init ops hops)

/-- Hence every search issued after such a history answers exactly like the same search on a database
    freshly built from the same commands (NLP on or off, any options). -/
theorem search_fresh (T : Tuning S) (mk : List Cmd → Bytes → List (Nat × S)) (ops : List (Op S))
    (hops : ∀ op ∈ ops, op.InScope) (q : Bytes) (o : Opts S) :
    let s := DbState.run T.ri DbState.init ops
    DbState.answer T mk s q o = search { T with tfidf := DbState.rankerOf mk (some s.cmds) } s.cmds q o :=
  DbState.answer_of_inv T mk (DbState.inv_run T.ri DbState.inv_init ops hops) q o

omit [ScoreOps S] in
/-- The commands of a loaded / merged database have well-formed lower-case caches. -/
theorem loaded_caches_wf (ri : RuneInfo) (s : DbState) :
    (∀ raw, ∀ c ∈ (DbState.step (S := S) ri s (.load raw)).cmds, WFCache ri c) ∧
    (∀ m p, ∀ c ∈ (DbState.step (S := S) ri s (.loadWithPersonal m p)).cmds, WFCache ri c) :=
  ⟨fun _ _ => wfCache_map_populate, fun m p => by
    cases p with
    | none => exact fun _ => wfCache_map_populate
    | some p =>
      -- the merged list is main ++ personal, both populated
      intro c hc
      rcases List.mem_append.mp hc with h | h
      · exact wfCache_map_populate h
      · exact wfCache_map_populate h⟩

/-- Lower-casing does not change the tokens of a text — for every byte string (valid UTF-8 or not)
    in which no non-ASCII code point is lower-cased to an ASCII one.  In Go's tables exactly two code
    points are: U+212A KELVIN SIGN (→ `k`) and U+0130 (→ `i`); the harness op `foldscan` re-derives
    that list from the toolchain over all 1,114,112 code points on every run.  At those two the
    statement is false (Boundary 2 below). -/
theorem tokenize_toLower (ri : RuneInfo) (s : Bytes)
    (h : ∀ r ∈ Utf8.runes s, 128 ≤ r → 128 ≤ ri.lower r) : tokenize (GoStr.toLower ri s) = tokenize s := by
  rw [GoStr.toLower_eq_gen, tokenize, tokenize, runs, runs, runsAux_toLowerGen h]

/-- Keywords / tags never glue: the tokens of `strings.Join(xs, " ")` are the tokens of the elements. -/
theorem tokenize_joinSp (xs : List Bytes) : tokenize (joinSp xs) = (xs.map tokenize).flatten :=
  Wtf.Search.tokenize_joinSp xs

/-- With well-formed caches, for commands free of the two exceptional code points, what the engine
    indexes is the tokenisation of the raw command line and description and, element by element, of the
    keywords and tags: "contains a content word" in the theorems above then speaks about the raw texts. -/
theorem indexed_tokens (ri : RuneInfo) (c : Cmd) (hwf : WFCache ri c) (hn : NoAsciiFold ri c) :
    c.cmdTokens = tokenize c.command ∧ c.descTokens = tokenize c.description ∧
    c.keysTokens = (c.keywords.map tokenize).flatten ∧ c.tagsTokens = (c.tags.map tokenize).flatten :=
  indexed_tokens_of hwf (fun s hs => tokenize_toLower ri s (hn s hs))

/-- The ASCII special case in the joined form (keywords and tags joined by single spaces).  For non-ASCII text
    the link is not a theorem of the byte-level model in general (Boundary 2 below); it holds for every text without
    the two exceptional code points, which the correspondence runs exercise (DESIGN.md §4). -/
theorem indexed_tokens_ascii (ri : RuneInfo) (c : Cmd) (hwf : WFCache ri c) (ha : AsciiCmd c) :
    c.cmdTokens = tokenize c.command ∧ c.descTokens = tokenize c.description ∧
    c.keysTokens = tokenize (joinSp c.keywords) ∧ c.tagsTokens = tokenize (joinSp c.tags) := by
  rw [tokenize_joinSp, tokenize_joinSp]
  refine indexed_tokens_of hwf (fun s hs => tokenize_toLower_ascii ?_)
  obtain ⟨h1, h2, h3, h4⟩ := ha
  rcases hs with rfl | rfl | hs | hs
  · exact h1
  · exact h2
  · exact h3 s hs
  · exact h4 s hs

/-! ## 6. non-vacuity, and the two documented boundaries -/

section examples

/-- a tiny concrete score type for the examples (no law is needed by any theorem above) -/
@[reducible] private def natOps : ScoreOps Nat :=
  { zero := 0, one := 1, add := (· + ·), sub := (· - ·), mul := (· * ·), div := (· / ·),
    lt := fun a b => decide (a < b), ofNat := id, ofQ := fun q => q.num.toNat / q.den }
attribute [local instance] natOps

private def bs (s : String) : Bytes := Bytes.ofString s

private def mkCmd (cmd desc : String) (kw tg plat : List String) : Cmd :=
  populate {} { command := bs cmd, description := bs desc, keywords := kw.map bs, tags := tg.map bs, niche := [],
                platform := plat.map bs, pipeline := false, commandLower := [], descriptionLower := [],
                keywordsLower := [], tagsLower := [] }

private def db3 : Db :=
  [ mkCmd "tar -czf archive.tar.gz dir" "Compress a directory of files" ["compress", "archive"] ["files"] [],
    mkCmd "ls -la" "List all files" ["list", "files"] [] [],
    mkCmd "mytool ps" "List running containers" ["list"] ["containers"] ["windows"] ]

private def T0 : Tuning Nat :=
  { params := { k1 := 1, bCmd := 0, bDesc := 0, bKeys := 0, bTags := 0, wCmd := 3, wDesc := 1, wKeys := 2, wTags := 1, minIDF := 0 }
    idf := fun n df => n - df + 1, host := bs "linux", ri := {}, normQ := lowerAscii,
    nlp := fun _ => { intentBoost := fun _ => 1, cascade := fun _ => 1 }, tfidf := none, fuzzySort := id }

private def o0 : Opts Nat := { limit := 10, pipelineBoost := 0 }

private def ids (r : Except Fuzzy.Panic (List (Nat × Nat))) : List Nat :=
  match r with | .ok l => l.map (·.1) | .error _ => [999]

/-- the vectors below on the 3-document database in one statement: the kernel tokenises the commands and builds the
    index of `db3` once for all of them -/
private theorem db3Vectors :
    look (build db3).postings (bs "files") =
      some [{ doc := 0, tf := { desc := 1, tags := 1 } }, { doc := 1, tf := { desc := 1, keys := 1 } }] ∧
    (look (build db3).df (bs "list") = some 2 ∧ look (build db3).df (bs "of") = none ∧
      look (build db3).df (bs "a") = none) ∧
    (build db3).lens = [{ cmd := 6, desc := 3, keys := 2, tags := 1 }, { cmd := 2, desc := 3, keys := 2, tags := 0 },
      { cmd := 2, desc := 3, keys := 1, tags := 1 }] ∧
    ((scoresOf T0 db3 (bs "List the FILES") o0).isEmpty = false ∧
      collect T0 db3 o0 (pqOf T0 (bs "List the FILES") o0) (scoresOf T0 db3 (bs "List the FILES") o0) = [(0, 4), (1, 8)]) ∧
    (scanScores T0 db3 o0 [bs "list", bs "files"] = initialScores T0 db3 (build db3) o0 none [bs "list", bs "files"] ∧
      (scanScores T0 db3 o0 [bs "list", bs "files"]).map (·.1) = [0, 1]) := by decide +kernel

-- the index of the 3-document database: "files" occurs in the tags of #0 (and its description) and in
-- description + keywords of #1; "list" in #1 and #2; the stop word "of" and the 1-letter "a" nowhere
example : look (build db3).postings (bs "files") =
    some [{ doc := 0, tf := { desc := 1, tags := 1 } }, { doc := 1, tf := { desc := 1, keys := 1 } }] := db3Vectors.1
example : look (build db3).df (bs "list") = some 2 ∧ look (build db3).df (bs "of") = none ∧
    look (build db3).df (bs "a") = none := db3Vectors.2.1
example : (build db3).lens = [{ cmd := 6, desc := 3, keys := 2, tags := 1 }, { cmd := 2, desc := 3, keys := 2, tags := 0 },
    { cmd := 2, desc := 3, keys := 1, tags := 1 }] := db3Vectors.2.2.1
-- hypotheses of `candidates_exact` are satisfiable together, and the answer is the expected one:
-- #2 contains "list" but is a windows-only command on a linux host
example : o0.useNLP = false ∧ o0.useFuzzy = false ∧ db3.length ≤ effLimit o0 ∧ MinIdfOff T0 :=
  ⟨rfl, rfl, by decide, fun _ _ => rfl⟩
example : search T0 db3 (bs "List the FILES") o0 = .ok [(1, 8), (0, 4)] := by
  obtain ⟨hs, h⟩ := db3Vectors.2.2.2.1
  rw [search_eq, lexical_eq, hs]
  simp only [Bool.false_eq_true, ↓reduceIte, orElse, lexicalTail, h]
  simp [pqOf, cascadeOpt, rerankOpt, sortDesc, List.mergeSort, List.MergeSort.Internal.splitInTwo, ScoreOps.lt, effLimit, o0]
example : scanScores T0 db3 o0 [bs "list", bs "files"] = initialScores T0 db3 (build db3) o0 none [bs "list", bs "files"] ∧
    (scanScores T0 db3 o0 [bs "list", bs "files"]).map (·.1) = [0, 1] := db3Vectors.2.2.2.2
-- a history inside the property's scope
example : ∀ op ∈ ([.load db3, .growDirect db3, .search (bs "x") o0, .update db3] : List (Op Nat)), op.InScope := by
  intro op h; simp at h; rcases h with rfl | rfl | rfl | rfl <;> trivial

/-- **Boundary 1 (documented non-theorem).**  Replacing `db.Commands` behind the engine's back by a
    list of the *same length* is not detected by `uIndex.N != len(db.Commands)`: the model (like the
    code) keeps answering from the old index.  This operation is not among the property's operations
    (load / merge / UpdateDatabase / growth), which is why `fresh` excludes `replaceDirect`. -/
example :
    let s := DbState.run (S := Nat) {} DbState.init [.load [mkCmd "aa bb" "" [] [] []], .replaceDirect [mkCmd "cc dd" "" [] [] []]]
    ids (DbState.answer T0 (fun _ _ => []) s (bs "cc") o0) = [] ∧
    ids (search T0 s.cmds (bs "cc") o0) = [0] := by decide +kernel

-- `NoAsciiFold` is satisfiable: a table without ASCII-folding entries (here: the empty one) meets it for every command
example (c : Cmd) : NoAsciiFold {} c := by
  intro s _ r _ hr
  have : ¬ r < 128 := by omega
  simp [RuneInfo.lower, RuneInfo.find, this]; exact hr

/-- **Boundary 2 (documented non-theorem).**  `tokenize_toLower` / `indexed_tokens` do not extend to all texts:
    Go lower-cases U+212A KELVIN SIGN to the ASCII letter `k`, so the cached field tokenises to
    `["kb"]` while the raw field (where the sign is a separator and `b` is too short) has no token. -/
example :
    let ri : RuneInfo := { table := [{ cp := 0x212A, lower := 0x6B, foldRep := 0x4B, isLower := false, isUpper := true,
                                       isSpace := false, isLetNum := true }] }
    tokenize (GoStr.toLower ri [0xE2, 0x84, 0xAA, 0x62]) = [[0x6B, 0x62]] ∧ tokenize [0xE2, 0x84, 0xAA, 0x62] = [] := by
  decide +kernel

end examples

end Wtf.C03
