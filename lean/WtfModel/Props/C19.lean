import WtfModel.Proofs.Embedding
import WtfModel.Proofs.EmbeddingScore
import WtfModel.Proofs.ScoreReal
import WtfModel.Gen.Embedding
import WtfModel.Gen.Constants

/-!
  C19 — semantic embeddings are strictly optional and their files cannot hurt.

  Property theorems only (helper lemmas: `Proofs/Embedding.lean`, `Proofs/EmbeddingScore.lean`).
  Quantifiers: every byte string as a word-vector / command-embedding file, every vector, every
  result list, every index.  `Gen.Embedding.*` and `Gen.Constants.Semantic*` are regenerated from
  the source on every run; the theorems are stated over them.

  What is *not* here (see `level_note` of lib/props/c19.py):
  * floats: the order theorems are over linearly ordered fields (`ℝ` is an instance); for the
    float function the range is guaranteed by the clamp (`Embedding.clampCos_range`, any `lt` with three
    evaluations at `±1`, any non-NaN input; `clamp_range` is its ordered case) and checked on the real floats by
    the monitor;
  * actual memory: `alloc_bound` bounds the sizes the loaders *request*; resident memory of the
    real process is measured by the check in a capped child process;
  * `search … (emb := none) = searchNoSemantic …` for the whole of `SearchUniversal`: `absent` is
    stated on the model of the last step of `applyPostScoringBoosts`, the only place the index is
    consulted (fact `semanticGatedByIndex`, re-extracted from the source on every run).
-/
namespace Wtf.C19
open Wtf.Embedding

/-- the literal `Dimension: 100` of `LoadWordVectors`, regenerated -/
abbrev D : Nat := Gen.Embedding.wvDimension
abbrev alphaQ : Q := Gen.Constants.SemanticAlpha
abbrev floorQ : Q := Gen.Constants.SemanticMinScore

/-! ## The regenerated facts satisfy what the model and the theorems assume -/

/-- The constants of the two size checks are the ones the model uses (header 4 / 8 bytes, 2 bytes of
    word length, 4 bytes per component), the checks precede every allocation sized from a header, the
    allocation sites are the ones the allocation log records, the cosine has its guards and clamp, the
    semantic stage is gated by the index and has the modelled formula and a stable re-sort; the
    dimension is large enough for the constant `3` of `alloc_bound`; `0 ≤ α`, `0 ≤ floor`. -/
theorem gen_facts :
    Gen.Embedding.wvHeaderBytes = 4 ∧ Gen.Embedding.wvRecordFixedBytes = 2 ∧ Gen.Embedding.wvF32Bytes = 4 ∧
    Gen.Embedding.ceHeaderBytes = 8 ∧ Gen.Embedding.ceF32Bytes = 4 ∧
    Gen.Embedding.wvSizeCheckBeforeAlloc = true ∧ Gen.Embedding.wvAllocSites = true ∧
    Gen.Embedding.ceSizeCheckBeforeAlloc = true ∧ Gen.Embedding.ceAllocSites = true ∧
    Gen.Embedding.remainingBytesShape = true ∧ Gen.Embedding.cosineGuardsAndClamp = true ∧
    Gen.Embedding.semanticGatedByIndex = true ∧ Gen.Embedding.boostFormulaAndStableSort = true ∧
    mapEntryCost ≤ 2 + 4 * D ∧
    0 ≤ alphaQ.num ∧ 0 < alphaQ.den ∧ 0 ≤ floorQ.num ∧ 0 < floorQ.den := by decide

/-! ## Clause 1 — without embedding files the feature does not exist -/

/-- With no index attached the semantic step of `applyPostScoringBoosts` is the identity, for every
    result list, query and arithmetic; and it is the only place that consults the index. -/
theorem absent {S V : Type} [EScoreOps S] [EScoreOps V] (α floor : S) (widen : V → S) (dbSize : Nat)
    (tokens : List Bytes) (results : List (Nat × S)) :
    Gen.Embedding.semanticGatedByIndex = true ∧
    postSemantic α floor widen (none : Option (Index V)) dbSize tokens results = .ok results :=
  ⟨by decide, rfl⟩

/-- `LoadEmbeddings`: no word-vector file, or one that does not load, leaves the database without an
    index (whatever the command-embedding file holds); a word-vector file that loads gives an index
    even if the command-embedding file is absent or damaged. -/
theorem absent_files (dim : Nat) (cmdFile : Option Bytes) :
    loadEmbeddings dim none cmdFile = none ∧
    (∀ g e, (parseWordVectors dim g).res = .error e → loadEmbeddings dim (some g) cmdFile = none) ∧
    (∀ g recs, (parseWordVectors dim g).res = .ok recs →
      ∃ cmds, loadEmbeddings dim (some g) cmdFile = some ⟨dim, recs, cmds⟩) := by
  refine ⟨rfl, ?_, ?_⟩
  · intro g e h; simp [loadEmbeddings, h]
  · intro g recs h; simp [loadEmbeddings, h]

/-! ## Clause 2 — the semantic stage only raises scores, by a bounded factor, and keeps order -/

section Stage
variable {S : Type} [Field S] [LinearOrder S] [IsStrictOrderedRing S] [HasSqrt S]

/-- the regenerated `SemanticAlpha` / `SemanticMinScore` in the score type -/
def alpha : S := EScoreOps.ofQ alphaQ
def floor : S := EScoreOps.ofQ floorQ

theorem alpha_nonneg : (0 : S) ≤ alpha := ofQ_nonneg (by decide)

theorem floor_nonneg : (0 : S) ≤ floor := ofQ_nonneg (by decide)

/-- For every result list with non-negative scores and every similarity table with values `≤ 1`
    (`cos_range` gives that for the real table): the output of the stage is a permutation of the
    boosted list — same commands —, it is in descending score order, each score `s` became `s'`
    with `s ≤ s' ≤ (1+α)·s`, and a result whose similarity is unknown or below the floor is
    unchanged.  Ties keep their previous relative order (stable). -/
theorem raises_bounded (sim : Nat → Option S) (hsim : ∀ id x, sim id = some x → x ≤ 1)
    (rs : List (Nat × S)) (hs : ∀ r ∈ rs, 0 ≤ r.2) :
    let out := semanticStage (alpha : S) floor sim rs
    out.Perm (rs.map (boostOne alpha floor sim)) ∧
    (out.map (·.1)).Perm (rs.map (·.1)) ∧
    out.Pairwise (fun x y => y.2 ≤ x.2) ∧
    (∀ r ∈ rs, (boostOne (alpha : S) floor sim r).1 = r.1 ∧
        r.2 ≤ (boostOne (alpha : S) floor sim r).2 ∧
        (boostOne (alpha : S) floor sim r).2 ≤ (1 + alpha) * r.2 ∧
        ((∀ x, sim r.1 = some x → x < floor) → boostOne (alpha : S) floor sim r = r)) ∧
    (∀ x y, y.2 ≤ x.2 → [x, y].Sublist (rs.map (boostOne alpha floor sim)) → [x, y].Sublist out) := by
  intro out
  have hspec : ∀ r ∈ rs, _ := fun r hr =>
    boostOne_spec (alpha : S) floor alpha_nonneg floor_nonneg sim hsim r (hs r hr)
  have hperm : out.Perm (rs.map (boostOne alpha floor sim)) := List.mergeSort_perm _ _
  refine ⟨hperm, ?_, sortDesc_sorted _, hspec, fun x y hxy h => sortDesc_stable _ x y hxy h⟩
  refine (hperm.map (·.1)).trans (.of_eq ?_)
  rw [List.map_map]
  exact List.map_congr_left fun r hr => (hspec r hr).1

/-- The whole of `applySemanticBoost`, for every index, token list and result list: either the list is
    returned untouched (no known token, or no command embeddings), or it went through the stage with a
    similarity table all of whose entries are cosines, hence in `[-1, 1]` — so `raises_bounded`
    applies to it. -/
theorem boost_is_stage [SqrtLaws S] {V : Type} [EScoreOps V] (widen : V → S) (idx : Index V) (dbSize : Nat)
    (tokens : List Bytes) (rs out : List (Nat × S))
    (h : applySemanticBoost (alpha : S) floor widen idx dbSize tokens rs = .ok out) :
    out = rs ∨ ∃ sim : Nat → Option S, (∀ id x, sim id = some x → -1 ≤ x ∧ x ≤ 1) ∧
      out = semanticStage alpha floor sim rs := by
  unfold applySemanticBoost at h
  split at h
  · cases h
  · rename_i q hq
    split at h
    · cases h; exact Or.inl rfl
    · rename_i qv
      split at h
      · cases h; exact Or.inl rfl
      · rename_i sims hsims
        cases h
        refine Or.inr ⟨_, ?_, rfl⟩
        intro id x hx
        simp only [semanticScores] at hsims
        split at hsims
        · cases hsims
        · cases hsims
          split at hx
          · obtain ⟨c, _, rfl⟩ := List.mem_map.mp (List.mem_of_getElem? hx)
            exact cosine_range _ _
          · cases hx

/-- "keeps the result list ordered": whatever path `postSemantic` takes (no index, empty list, no
    known token, no command embeddings, or the stage) a list in descending score order stays in
    descending score order; after the stage it is in that order even if it was not before. -/
theorem keeps_ordered [SqrtLaws S] {V : Type} [EScoreOps V] (widen : V → S) (emb : Option (Index V)) (dbSize : Nat)
    (tokens : List Bytes) (rs out : List (Nat × S)) (hsorted : rs.Pairwise (fun x y => y.2 ≤ x.2))
    (h : postSemantic (alpha : S) floor widen emb dbSize tokens rs = .ok out) :
    out.Pairwise (fun x y => y.2 ≤ x.2) := by
  unfold postSemantic at h
  split at h
  · cases h; exact hsorted
  · split at h
    · cases h; exact hsorted
    · rcases boost_is_stage widen _ dbSize tokens rs out h with rfl | ⟨sim, _, rfl⟩
      · exact hsorted
      · exact sortDesc_sorted _

end Stage

/-! ## Clause 3 — cosine similarity -/

/-- Symmetry needs nothing but a commutative product — in particular no associativity and no
    exactness, so the statement is also the one the float function is tested against bit for bit. -/
theorem cos_symm {S : Type} [EScoreOps S] (hmul : ∀ x y : S, EScoreOps.mul x y = EScoreOps.mul y x)
    (a b : List S) : cosine a b = cosine b a := cosine_symm hmul a b

/-- symmetry over every ordered field -/
theorem cos_symm_field {S : Type} [Field S] [LinearOrder S] [HasSqrt S] (a b : List S) :
    cosine a b = cosine b a := cosine_symm (fun x y => mul_comm x y) a b

/-- Range (Cauchy–Schwarz, proved on the accumulation loop itself) over every linearly ordered field
    with a square root; there the clamp is inert: the function equals the plain quotient. -/
theorem cos_range {S : Type} [Field S] [LinearOrder S] [IsStrictOrderedRing S] [HasSqrt S] [SqrtLaws S]
    (a b : List S) : (-1 ≤ cosine a b ∧ cosine a b ≤ 1) ∧ cosine a b = cosineRaw a b :=
  cosine_spec a b

/-- the hypotheses of `cos_range` are dischargeable: the reals -/
theorem cos_range_real (a b : List ℝ) : -1 ≤ cosine a b ∧ cosine a b ≤ 1 := cosine_range a b

/-- The clamp itself: for *any* arithmetic whose `<` is that of a linear order, every non-NaN input lands in
    `[-1, 1]`, and NaN becomes `0`.  The floats' `<` is not such an order (signed zeros); what makes the range hold
    for the float function by construction, rounding or not, is `Embedding.clampCos_range`, of which this is the
    ordered case. -/
theorem clamp_range {S : Type} [EScoreOps S] [LinearOrder S]
    (hlt : ∀ a b : S, EScoreOps.lt a b = true ↔ a < b) (h11 : (negOne : S) ≤ EScoreOps.one) (x : S) :
    (EScoreOps.isNaN x = false → negOne ≤ clampCos x ∧ clampCos x ≤ EScoreOps.one) ∧
    (EScoreOps.isNaN x = true → clampCos x = EScoreOps.zero) := by
  have f (a b : S) : EScoreOps.lt a b = false ↔ b ≤ a := by rw [← not_lt, ← hlt, Bool.not_eq_true]
  simpa only [f] using clampCos_range ((f _ _).mpr le_rfl) ((f _ _).mpr le_rfl) ((f _ _).mpr h11) x

/-- `0` for empty, mismatched or all-zero vectors -/
theorem cos_zero {S : Type} [Field S] [LinearOrder S] [IsStrictOrderedRing S] [HasSqrt S] (a b : List S)
    (h : a = [] ∨ b = [] ∨ a.length ≠ b.length ∨ (∀ x ∈ a, x = 0) ∨ (∀ x ∈ b, x = 0)) : cosine a b = 0 := by
  rcases h with h | h | h | h | h
  · exact cosine_zero_left a b (by simp [h])
  · rw [cos_symm_field]
    exact cosine_zero_left b a (by simp [h])
  · simp [cosine, h]
  · exact cosine_zero_left a b h
  · rw [cos_symm_field]
    exact cosine_zero_left b a h

/-! ## Clause 4 — loading a file of any content returns vectors or an error -/

/-- Both loaders are total functions of the file's bytes (Lean's termination check: every loop is
    bounded by the header count and every record read consumes input).
    Word vectors: either an error and no index, or exactly the `count` records of the header, each with
    a `D`-component vector and a word shorter than 2¹⁶, all of which the file really held.
    Command embeddings: either no error and a table of exactly `count` vectors of the index's
    dimension, all of which the file held — or an error *and the table untouched*: with the size check a
    half-filled table (nil slots) cannot arise. -/
theorem parse_total (file : Bytes) (dim : Nat) :
    ((∃ e, (parseWordVectors D file).res = .error e) ∨
      (∃ recs, (parseWordVectors D file).res = .ok recs ∧ recs.length = leNat (file.take 4) ∧
        4 + wvSize D recs ≤ file.length ∧ ∀ r ∈ recs, r.2.length = D ∧ r.1.length < 65536)) ∧
    ((∃ e, (parseCmdEmbeddings dim file).err = some e ∧ (parseCmdEmbeddings dim file).table = none) ∨
      (∃ t, (parseCmdEmbeddings dim file).err = none ∧ (parseCmdEmbeddings dim file).table = some t ∧
        t.length = leNat (file.take 4) ∧ 8 + t.length * (4 * dim) ≤ file.length ∧ ∀ v ∈ t, v.length = dim)) := by
  constructor
  · rcases parseWordVectors_cases D file with ⟨e, he, _⟩ | ⟨n, rest, hn, hlen, hfit, heq⟩
    · exact .inl ⟨e, he⟩
    · rw [heq]
      cases hr : (wvRecords D n 0 rest).res with
      | error e => exact .inl ⟨e, rfl⟩
      | ok recs =>
        have := (wvRecords_spec D _ _ _).2 _ hr
        exact .inr ⟨recs, rfl, this.1.trans hn, by omega, this.2.2⟩
  · rcases parseCmdEmbeddings_cases dim file with ⟨e, he, ht, _⟩ | ⟨n, rest, hn, hlen, hfit, _, heq⟩
    · exact .inl ⟨e, he, ht⟩
    · obtain ⟨_, htab, hrec⟩ := ceRecords_spec dim n 0 rest
      rw [heq]
      exact .inr ⟨_, (hrec hfit).1, rfl, htab.trans hn, by rw [htab]; omega, (hrec hfit).2⟩

/-! ## Clause 5 — memory in proportion to the file -/

/-- Sum of all allocation requests of a load (table hints, per-record buffers, decode scratch, the
    bufio buffer — on success and on every error path) with explicit constants:
    word vectors `≤ 3·|file| + 70437`, command embeddings `≤ 8·|file| + 4104` for every dimension.
    (Byte sizes: 4 per float32, 24 per slice header, `mapEntryCost` = 96 per hinted map entry.) -/
theorem alloc_bound (file : Bytes) (dim : Nat) :
    allocTotal (parseWordVectors D file).allocs ≤ 3 * file.length + 70437 ∧
    allocTotal (parseCmdEmbeddings dim file).allocs ≤ 8 * file.length + 4104 := by
  constructor
  · rcases parseWordVectors_cases D file with ⟨_, _, h⟩ | ⟨n, rest, _, hlen, hfit, heq⟩
    · omega
    · have h1 := (wvRecords_spec D n 0 rest).1
      -- the map hint costs no more than the records it announces: 96 ≤ 2 + 4·D
      have h3 : mapEntryCost * n ≤ n * (2 + 4 * D) := by
        rw [Nat.mul_comm]; exact Nat.mul_le_mul_left _ (by decide)
      have hDv : D = 100 := by decide
      rw [heq]
      simp only [allocTotal_append, allocTotal_cons, allocTotal_nil, Alloc.cost, bufioSize]
      omega
  · rcases parseCmdEmbeddings_cases dim file with ⟨_, _, _, h⟩ | ⟨n, rest, _, hlen, hfit, hdim, heq⟩
    · omega
    · have ha := (ceRecords_spec dim n 0 rest).1
      rw [heq]
      simp only [allocTotal_append, allocTotal_cons, allocTotal_nil, Alloc.cost, bufioSize]
      -- the slice headers: 24·n ≤ 6·(n·4·dim), because dim ≥ 1 when n > 0
      have h4 : n * 4 ≤ n * (4 * dim) := by
        rcases Nat.eq_zero_or_pos n with rfl | hn
        · simp
        · exact Nat.mul_le_mul_left _ (Nat.le_mul_of_pos_right _ (hdim hn))
      omega

/-- the header count never exceeds what the file can hold: number of vectors returned
    `≤ (|file| − header) / record size`; the vocabulary is no larger than the record count -/
theorem count_bound (file : Bytes) (dim : Nat) :
    (∀ recs, (parseWordVectors D file).res = .ok recs →
      recs.length ≤ (file.length - 4) / (2 + 4 * D) ∧ (vocab recs).length ≤ recs.length) ∧
    (∀ t, (parseCmdEmbeddings dim file).table = some t → t.length * (4 * dim) ≤ file.length - 8) := by
  constructor
  · intro recs h
    rcases (parse_total file dim).1 with ⟨e, he⟩ | ⟨recs', hr, _, hsz, _⟩
    · rw [he] at h; cases h
    · rw [hr] at h; cases h
      refine ⟨?_, ?_⟩
      · rw [Nat.le_div_iff_mul_le (by omega)]
        have := wvSize_ge D recs
        omega
      · exact vocab_length_le recs
  · intro t h
    rcases (parse_total file dim).2 with ⟨e, _, hn⟩ | ⟨t', _, ht, _, hsz, _⟩
    · rw [hn] at h; cases h
    · rw [ht] at h; cases h; omega

/-- an index that came out of the loaders never makes `EmbedQuery` index out of range -/
theorem embed_no_panic {V : Type} [EScoreOps V] (conv : F32 → V) (file : Bytes) (cmdFile : Option Bytes)
    (idx : Index F32) (h : loadEmbeddings D (some file) cmdFile = some idx) (tokens : List Bytes) :
    ∃ r, embedTokens (idx.map conv).dim (lookupWord (idx.map conv).words) tokens = .ok r := by
  apply embedTokens_no_panic
  intro t vec hv
  obtain ⟨r, hr, rfl⟩ := lookupWord_mem hv
  obtain ⟨_, hnone, hsome⟩ := absent_files D cmdFile
  rcases (parse_total file 0).1 with ⟨e, he⟩ | ⟨recs, hrecs, _, _, hshape⟩
  · rw [hnone file e he] at h; cases h
  · obtain ⟨cmds, hc⟩ := hsome file recs hrecs
    rw [hc] at h; cases h
    obtain ⟨r0, hr0, rfl⟩ := List.mem_map.mp hr
    simp [Index.map, (hshape r0 hr0).1]

/-! ## Necessity of the size checks, and non-vacuity -/

/-- 7 bytes: header count 2³²−1, three stray bytes -/
def file7 : Bytes := [0xff, 0xff, 0xff, 0xff, 0, 0, 0]

/-- WITHOUT the size check (`check := false`, the code before 4457add) the bound of `alloc_bound`
    fails on a 7-byte file: the map alone is hinted with 2³²−1 entries. -/
example : 3 * file7.length + 70437 < allocTotal (parseWordVectorsWith false D file7).allocs := by
  have h := wv_unchecked_alloc D file7 [0xff, 0xff, 0xff, 0xff] [0, 0, 0] (by decide)
  have h2 : leNat [0xff, 0xff, 0xff, 0xff] = 4294967295 := by decide
  rw [h2] at h
  have h3 : file7.length = 7 := by decide
  have h4 : mapEntryCost = 96 := rfl
  omega

/-- with the check the same file is refused before anything is sized from the header -/
example : (parseWordVectors D file7).res = .error (.tooShort 4294967295) ∧
    allocTotal (parseWordVectors D file7).allocs = 4100 := by decide +kernel

/-- WITHOUT the check `LoadCommandEmbeddings` can leave a half-filled table behind an error
    (count 2, dimension 1, one record present): the second slot is nil. -/
example : (parseCmdEmbeddingsWith false 1 [2, 0, 0, 0, 1, 0, 0, 0, 0, 0, 128, 63]).table = some [[0x3f800000], []] ∧
    (parseCmdEmbeddingsWith false 1 [2, 0, 0, 0, 1, 0, 0, 0, 0, 0, 128, 63]).err = some (.short .embedding 1 .eof) := by
  decide +kernel

/-- the loaders do return vectors: two records (dimension 1), the later duplicate wins in the map -/
example : (parseWordVectors 1 [2, 0, 0, 0, 1, 0, 97, 0, 0, 128, 63, 1, 0, 97, 0, 0, 0, 64]).res =
      .ok [([97], [0x3f800000]), ([97], [0x40000000])] ∧
    lookupWord [(([97] : Bytes), [(0x3f800000 : F32)]), ([97], [0x40000000])] [97] = some [0x40000000] ∧
    vocab [(([97] : Bytes), [(0x3f800000 : F32)]), ([97], [0x40000000])] = [[97]] := by decide +kernel

/-- truncation inside a record is an error naming the field and the record -/
example : (parseWordVectors 1 [2, 0, 0, 0, 1, 0, 97, 0, 0, 128, 63, 1, 0, 97, 0, 0]).res =
    .error (.short .vector 1 .unexpected) := by decide +kernel

example : (parseCmdEmbeddings 1 [2, 0, 0, 0, 1, 0, 0, 0, 0, 0, 128, 63, 0, 0, 0, 64]).table =
    some [[0x3f800000], [0x40000000]] := by decide +kernel

/-- wrong dimension -/
example : (parseCmdEmbeddings 100 [1, 0, 0, 0, 3, 0, 0, 0]).err = some (.dimMismatch 100 3) := by decide +kernel

section
/-- the rationals with a (lawless) square root are enough to *run* the stage -/
local instance : HasSqrt ℚ := ⟨fun x => x⟩

/-- the boost really raises, and only above the floor (shown for α = 3/10, floor = 1/10, the values at
    the time of writing; the theorems above are over the regenerated constants whatever they are):
    score 2 with similarity 1 becomes 2·(1 + 3/10) = 13/5; similarity 1/20 is under the floor -/
example : boostOne (3 / 10 : ℚ) (1 / 10) (fun _ => some 1) (0, 2) = (0, 13 / 5) ∧
    boostOne (3 / 10 : ℚ) (1 / 10) (fun _ => some (1 / 20)) (0, 2) = (0, 2) := by
  constructor <;> (simp only [boostOne, ops_ge, ops_mul, ops_add, ops_one]; norm_num)

/-- the hypotheses of `raises_bounded` are satisfiable with the regenerated constants: the all-ones
    similarity table and a one-element list -/
example : (semanticStage (alpha : ℚ) floor (fun _ => some 1) [(0, 2)]).Pairwise (fun x y => y.2 ≤ x.2) :=
  (raises_bounded (S := ℚ) (fun _ => some 1) (by intro _ x h; cases h; exact le_refl _) [(0, 2)]
    (by intro r hr; simp at hr; subst hr; norm_num)).2.2.1
end

/-- cosine is not constantly 0: identical non-zero vectors have similarity 1 over the reals -/
example : cosine ([2] : List ℝ) [2] = 1 := by
  have h := (cos_range ([2] : List ℝ) [2]).2
  rw [h]
  simp only [cosineRaw, cosAcc, List.length_cons, List.length_nil, ops_zero, ops_add, ops_mul, ops_eq, ops_div, ops_sqrt]
  norm_num
  show (4 : ℝ) / (Real.sqrt 4 * Real.sqrt 4) = 1
  rw [Real.mul_self_sqrt (by norm_num)]
  norm_num

end Wtf.C19
