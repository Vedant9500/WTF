import WtfModel.Proofs.Cli
import WtfModel.Proofs.History
import WtfModel.Proofs.Validate
/-
  C17 — every CLI command runs, and search output matches the engine's answer.

  Property (properties.jsonl): "Every documented sub-command starts and finishes without crashing for any arguments. For any
  accepted query and flag combination, `wtf [search]` prints exactly the engine's results in rank order and never more than
  the limit in force; with --format json the result block is a well-formed JSON array with one object per result; with
  --no-color or NO_COLOR the output contains no terminal escape sequences; and each search leaves exactly one corresponding
  newest entry in the history."

  The theorems are about `Wtf.Cli.cliSearch` (Model/Cli.lean): the handler of `wtf [search]` as a function of everything the
  rest of the program hands it (`World`), for ALL flags and ALL worlds.  The rendering branches and the constants are the
  regenerated `Gen.Cli`; the command tree is the regenerated `Gen.Flags`.  What is NOT covered by a theorem (process start-up,
  cobra's parsing, the terminal, encoding/json, the handlers of the other sub-commands) is exercised on the real binary by
  lib/props/c17.py and stated as partial in the manifest.
-/
namespace Wtf.C17
open Wtf.Cli

variable {S : Type} [ScoreOps S]

/-- No command of the cobra tree can panic while its flag sets are registered and merged with the persistent flags of its
    ancestors and the implicit `-h`, `--help`: no repeated name or shorthand inside one flag set, and no flag that is merged in
    under a new name re-uses a shorthand already taken.  (This is what made `save` / `save-pipeline` panic before the fix:
    local `--platforms -p` against the root's persistent `--platform -p`.)  Evaluated on the regenerated flag table. -/
theorem starts : ∀ c ∈ Gen.Flags.commands, noShorthandClash Gen.Flags.commands c = true := by decide +kernel

/-- every expression of the regenerated rendering steps has a meaning in the model's interpreter -/
theorem spec_recognised : (Gen.Cli.listSteps ++ Gen.Cli.tableSteps ++ Gen.Cli.jsonSteps).all stepKnown = true := by decide

/-- the limit handed to the engine is positive whatever `--limit` was (0 ⇒ default) -/
theorem limit_in_force_pos (valid : Int) : 0 < limitInForce valid := limitInForce_pos valid

/-- `--limit` below 0 or above the maximum: an error message and nothing else (no results, no result block, no history) -/
theorem rejects_bad_limit (fl : Flags) (w : World S) (h : fl.limit < 0 ∨ fl.limit > Validate.maxLimit) :
    ((cliSearch fl w).stage = .queryRejected ∨ (cliSearch fl w).stage = .limitRejected) ∧
    (cliSearch fl w).results = [] ∧ (cliSearch fl w).block = [] ∧ (cliSearch fl w).histAfter = none := by
  obtain ⟨m, hm⟩ : ∃ m, Validate.validateLimit fl.limit = .error m := by
    rcases h with h | h
    · exact ⟨_, Validate.validateLimit_neg h⟩
    · exact ⟨_, Validate.validateLimit_big h⟩
  unfold cliSearch
  cases w.vquery with
  | error e => simp
  | ok q => simp [hm]

/-- Clause "never more than the limit in force".  Hypothesis: the engine returns at most `Limit` results for the option
    record the CLI builds (property C01 for `SearchUniversal`; re-checked on every run).  The recovery path needs no
    hypothesis: the CLI cuts it itself. -/
theorem limit (fl : Flags) (w : World S) {q : Bytes} {valid : Int}
    (hq : w.vquery = .ok q) (hl : Validate.validateLimit fl.limit = .ok valid)
    (hEngine : ((w.engine (cliOpts fl (limitInForce valid) w.boosts)).length : Int) ≤ limitInForce valid) :
    ((cliSearch fl w).results.length : Int) ≤ limitInForce valid := by
  have hpos := limitInForce_pos valid
  cases hload : w.loadOk with
  | false =>
    simp only [cliSearch, hq, hl, hload]
    exact Int.le_of_lt hpos
  | true =>
    rw [(cliSearch_ok fl w hq hl hload).1, Search.length_sortDesc]
    exact answer_length_le fl w (Int.le_of_lt hpos) hEngine

/-- Clause "prints exactly the engine's results in rank order".  For every accepted run the printed list IS `answer`: the
    engine's answer if that is non-empty, otherwise the recovery answer filtered by the platform gate and cut to the limit.
    Hypotheses (explicit): both answers are sorted by score, non-increasing — C01 proves it for the engine; every recovery
    strategy gives all its results the same score.  Under them the CLI's stable re-sort is the identity. -/
theorem prints_engine (fl : Flags) (w : World S) {q : Bytes} {valid : Int}
    (hq : w.vquery = .ok q) (hl : Validate.validateLimit fl.limit = .ok valid) (hload : w.loadOk = true)
    (hEng : SortedDesc (w.engine (cliOpts fl (limitInForce valid) w.boosts)))
    (hRec : ∀ rs, w.recovery = some rs → SortedDesc rs) :
    (cliSearch fl w).results = answer fl w (limitInForce valid) := by
  rw [(cliSearch_ok fl w hq hl hload).1, Search.sortDesc_of_sorted (answer_sorted fl w hEng hRec)]

/-- the same, spelled out on ids -/
theorem prints_engine_ids (fl : Flags) (w : World S) {q : Bytes} {valid : Int}
    (hq : w.vquery = .ok q) (hl : Validate.validateLimit fl.limit = .ok valid) (hload : w.loadOk = true)
    (hEng : SortedDesc (w.engine (cliOpts fl (limitInForce valid) w.boosts)))
    (hRec : ∀ rs, w.recovery = some rs → SortedDesc rs) :
    let o := cliOpts fl (limitInForce valid) w.boosts
    (w.engine o ≠ [] → (cliSearch fl w).results.map (·.1) = (w.engine o).map (·.1)) ∧
    (w.engine o = [] → ∀ rs, w.recovery = some rs →
      (cliSearch fl w).results.map (·.1) = (((rs.filter (fun r => w.gate o r.1)).take (limitInForce valid).toNat).map (·.1))) := by
  intro o
  rw [prints_engine fl w hq hl hload hEng hRec, answer_eq]
  constructor
  · intro hne
    rw [if_neg (by simpa using hne)]
  · intro he rs hr
    rw [if_pos (by simpa using he), recoveryAnswer_eq, hr]
    rfl

/-- the result block is the rendering of `answer` in the format in force, for a non-empty answer that is sorted (as it is
    under the hypotheses of `prints_engine`, by `answer_sorted`) -/
theorem block_of_answer (fl : Flags) (w : World S) {q : Bytes} {valid : Int}
    (hq : w.vquery = .ok q) (hl : Validate.validateLimit fl.limit = .ok valid) (hload : w.loadOk = true)
    (hs : SortedDesc (answer fl w (limitInForce valid))) (hne : (answer fl w (limitInForce valid)).isEmpty = false) :
    (cliSearch fl w).block = (renderBlock fl w (formatOf fl.format) (answer fl w (limitInForce valid))).1 ∧
    (cliSearch fl w).stage = .printed := by
  obtain ⟨hr, _, _, hst⟩ := cliSearch_ok fl w hq hl hload
  rcases cliSearch_block fl w with ⟨h, _⟩ | ⟨_, hb⟩
  · exact absurd (hst hne) h
  · rw [hr, Search.sortDesc_of_sorted hs] at hb
    exact ⟨congrArg Prod.fst hb, hst hne⟩

/-- Clause "with --format json the result block is a JSON array with one object per result": the items handed to the encoder
    are, result by result and in printed order, exactly `expectedMembers` — command, description always; category when
    non-empty; keywords, platforms (when non-empty) and score (when non-zero) only with --verbose; the block is the encoder's
    rendering of those items (`encodeItems`: `[`, one indented object per item, `]`, newline).  Proved by evaluating the
    regenerated `jsonSteps` / `jsonFields`, so a dropped `omitempty` or a field filled without `-v` breaks it. -/
theorem json_shape [ScoreLaws S] (fl : Flags) (w : World S) (hf : formatOf fl.format = .json) :
    (cliSearch fl w).jsonItems.map (objFields Gen.Cli.jsonFields)
      = (cliSearch fl w).results.map (fun r => expectedMembers fl.verbose (w.docs r.1) r.2) ∧
    (cliSearch fl w).jsonItems.length = (cliSearch fl w).results.length ∧
    ((cliSearch fl w).stage = .printed → (cliSearch fl w).block = encodeItems w.F (cliSearch fl w).jsonItems) :=
  cliSearch_json fl w (ScoreLaws.lt_irrefl _) hf

/-- member names per verbosity: without --verbose an object has `command`, `description` and, when the entry has a category,
    `category` — nothing else; with --verbose the optional members appear in the fixed order of the struct -/
theorem json_members (verbose : Bool) (d : Doc) (s : S) :
    (verbose = false → (expectedMembers verbose d s).map (·.1) = ["command", "description"] ++ (if d.niche.isEmpty then [] else ["category"])) ∧
    ((expectedMembers verbose d s).map (·.1)).Sublist ["command", "description", "keywords", "category", "platforms", "score"] ∧
    (expectedMembers verbose d s).take 2 = [("command", .bytes d.command), ("description", .bytes d.description)] := by
  have opt : ∀ (c : Bool) (kv : String × Val S), ((if c then [kv] else []).map (·.1)).Sublist [kv.1] := by
    intro c kv
    cases c
    · exact List.nil_sublist _
    · exact List.Sublist.refl _
  refine ⟨?_, ?_, rfl⟩
  · intro hv
    subst hv
    cases h : d.niche.isEmpty <;> simp [expectedMembers, h]
  · simp only [expectedMembers, List.map_append]
    exact ((((List.Sublist.refl _).append (opt _ _)).append (opt _ _)).append (opt _ _)).append (opt _ _)

/-- Clause "with --no-color or NO_COLOR the output contains no terminal escape sequences", for the result block.
    Hypotheses (explicit): no database field of a PRINTED result contains ESC (the list and table formats print fields raw:
    an entry whose text carries an escape sequence is shown with it); the number / string formatters of the standard library
    emit none.  Everything else — every literal of every format string in the three branches, the colour variables, the
    decimal numbers, the padding, the JSON punctuation and member names — is shown ESC-free from the regenerated steps. -/
theorem no_escapes (fl : Flags) (w : World S)
    (hnc : fl.noColor = true ∨ w.envNoColor = true)
    (hF : FmtClean w.F)
    (hdb : ∀ r ∈ (cliSearch fl w).results, DocClean (w.docs r.1)) :
    ESC ∉ (cliSearch fl w).block := by
  have hno : noColorInForce fl w = true := by
    rcases hnc with h | h <;> simp [noColorInForce, h]
  exact block_clean fl w (.inl hno) hF (fun _ => hdb)

/-- Clause "each search leaves exactly one corresponding newest entry in the history".  A run that gets past validation, the
    limit check and loading makes exactly one `AddEntry` — with the VALIDATED query and the number of printed results — on the
    history as loaded (`0 < maxSize`: C16 `cli_max_positive` / `load_maxSize_pos`), on the nothing-found path too.  Afterwards
    the newest entry is that entry, and either an equal last query was replaced (length unchanged) or the entry was appended and
    the log cut to its last `maxSize` entries (it grew by one when it was not full). -/
theorem history_one (fl : Flags) (w : World S) {q : Bytes} {valid : Int}
    (hq : w.vquery = .ok q) (hl : Validate.validateLimit fl.limit = .ok valid) (hload : w.loadOk = true)
    (hm : 0 < w.hist.maxSize) :
    ∃ e h', (cliSearch fl w).histAdd = some e ∧ e.query = q ∧ e.results = ((cliSearch fl w).results.length : Int) ∧
      (cliSearch fl w).histAfter = some (.ok h') ∧ h'.maxSize = w.hist.maxSize ∧ h'.entries.getLast? = some e ∧
      ((∃ l, w.hist.entries.getLast? = some l ∧ l.query = q ∧ h'.entries = w.hist.entries.dropLast ++ [e]) ∨
       ((∀ l, w.hist.entries.getLast? = some l → l.query ≠ q) ∧
          h'.entries = History.lastN w.hist.maxSize.toNat (w.hist.entries ++ [e]) ∧
          (w.hist.entries.length < w.hist.maxSize.toNat → h'.entries = w.hist.entries ++ [e]))) := by
  obtain ⟨hr, ha, hb, _⟩ := cliSearch_ok fl w hq hl hload
  rw [hr, Search.length_sortDesc]
  refine ⟨_, _, ha, rfl, rfl, (hb.trans (congrArg (Option.map _) ha)).trans (congrArg some (History.add_eq hm _)), rfl,
    History.addEntries_getLast? _ (by omega) _ _, ?_⟩
  by_cases hd : ∃ l, w.hist.entries.getLast? = some l ∧ l.query = q
  · obtain ⟨l, hl, hlq⟩ := hd
    exact .inl ⟨l, hl, hlq, History.addEntries_dup hl hlq⟩
  · have hnd : ∀ l, w.hist.entries.getLast? = some l → l.query ≠ q := fun l hl hlq => hd ⟨l, hl, hlq⟩
    refine .inr ⟨hnd, History.addEntries_new hnd, fun hlt => ?_⟩
    exact (History.addEntries_new hnd).trans (History.lastN_of_le (by simp; omega))

/-- nothing is recorded when validation, the limit check or loading stops the command -/
theorem history_untouched (fl : Flags) (w : World S)
    (h : (∃ e, w.vquery = .error e) ∨ (∃ m, Validate.validateLimit fl.limit = .error m) ∨ w.loadOk = false) :
    (cliSearch fl w).histAdd = none ∧ (cliSearch fl w).histAfter = none ∧ (cliSearch fl w).results = [] ∧ (cliSearch fl w).block = [] := by
  unfold cliSearch
  cases hq : w.vquery with
  | error e => simp
  | ok q =>
    simp only []
    cases hl : Validate.validateLimit fl.limit with
    | error m => simp
    | ok valid =>
      simp only []
      rcases h with ⟨e, he⟩ | ⟨m, hm⟩ | hld
      · rw [hq] at he; cases he
      · rw [hl] at hm; cases hm
      · simp [hld]

/-! ## non-vacuity: a concrete run over the integers -/
section examples

private instance : ScoreOps Int where
  zero := 0
  one := 1
  add := (· + ·)
  sub := (· - ·)
  mul := (· * ·)
  div := (· / ·)
  lt a b := decide (a < b)
  ofNat n := n
  ofQ q := q.num / q.den

private def exDocs : Nat → Doc
  | 0 => { command := bs "ls -la", description := bs "List files", niche := bs "files", keywords := [bs "list"], platform := [bs "linux"] }
  | 1 => { command := bs "tar czf a.tgz dir", description := bs "Compress a directory" }
  | _ => { command := bs "dir", description := bs "List files (windows)", platform := [bs "windows"] }

private def exF : Fmt Int :=
  { fmtFloat := fun _ s => intDec s ++ bs ".0", jsonStr := fun b => [0x22] ++ b.filter (· != ESC) ++ [0x22], jsonNum := fun s => intDec s }

private def exWorld (eng : List (Nat × Int)) (rcv : Option (List (Nat × Int))) (hist : List History.Entry) : World Int where
  vquery := .ok (bs "list files")
  engine := fun o => eng.take o.limit.toNat
  recovery := rcv
  gate := fun o d => o.allPlatforms || d != 2
  hist := { entries := hist, maxSize := Gen.Cli.historyMax }
  docs := exDocs
  F := exF

private def exEngine : World Int := exWorld [(1, 7), (0, 3)] none [⟨bs "older", 0, 1, [], 0⟩]
private def exRecovery : World Int := exWorld [] (some [(0, 1), (2, 1), (1, 1)]) [⟨bs "list files", 0, 9, [], 0⟩]

private theorem exEngine_rec : ∀ rs, exEngine.recovery = some rs → SortedDesc rs := by
  intro rs h; simp [exEngine, exWorld] at h
private theorem exRecovery_rec : ∀ rs, exRecovery.recovery = some rs → SortedDesc rs := by
  intro rs h; simp only [exRecovery, exWorld, Option.some.injEq] at h; subst h; decide
private theorem exLimit0 : Validate.validateLimit 0 = .ok 5 := by decide
private theorem exLimit1 : Validate.validateLimit 1 = .ok 1 := by decide

-- the engine path: both results, in the engine's order; the history grows by one
example : ((cliSearch {} exEngine).results.map (·.1) = [1, 0]) := by
  rw [prints_engine {} exEngine rfl exLimit0 rfl (by decide) exEngine_rec]; decide
example : (cliSearch {} exEngine).stage = .printed ∧ (cliSearch {} exEngine).usesEscapes = true := by decide +kernel
example : ((cliSearch { limit := 1 } exEngine).results.map (·.1) = [1]) := by
  rw [prints_engine { limit := 1 } exEngine rfl exLimit1 rfl (by decide) exEngine_rec]; decide
example : ∃ h, (cliSearch {} exEngine).histAfter = some (.ok h) ∧ h.entries.map (·.query) = [bs "older", bs "list files"] ∧
    h.entries.map (·.results) = [1, 2] := ⟨_, rfl, by decide +kernel, by decide +kernel⟩
-- the recovery path: the windows entry is dropped by the gate, the rest cut to --limit 1; an equal last query is replaced
example : (cliSearch { limit := 1 } exRecovery).results.map (·.1) = [0] := by
  rw [prints_engine { limit := 1 } exRecovery rfl exLimit1 rfl (by decide) exRecovery_rec]; decide
example : (cliSearch {} exRecovery).results.map (·.1) = [0, 1] := by
  rw [prints_engine {} exRecovery rfl exLimit0 rfl (by decide) exRecovery_rec]; decide
example : (cliSearch { allPlatforms := true } exRecovery).results.map (·.1) = [0, 2, 1] := by
  rw [prints_engine { allPlatforms := true } exRecovery rfl exLimit0 rfl (by decide) exRecovery_rec]; decide
example : ∃ h, (cliSearch {} exRecovery).histAfter = some (.ok h) ∧ h.entries.map (·.results) = [2] := ⟨_, rfl, by decide +kernel⟩
-- rejected limit: nothing printed, nothing recorded
example : (cliSearch { limit := 101 } exEngine).stage = .limitRejected ∧ (cliSearch { limit := -1 } exEngine).histAfter = none := by decide
-- JSON: one object per result; members per verbosity (through `json_shape`, whose right-hand side is closed)
example : (expectedMembers false (exDocs 1) (7 : Int)).map (·.1) = ["command", "description"] ∧
    (expectedMembers false (exDocs 0) (3 : Int)).map (·.1) = ["command", "description", "category"] ∧
    (expectedMembers true (exDocs 1) (7 : Int)).map (·.1) = ["command", "description", "score"] ∧
    (expectedMembers true (exDocs 0) (3 : Int)).map (·.1) = ["command", "description", "keywords", "category", "platforms", "score"] := by decide +kernel
private theorem exF_clean : FmtClean exF where
  float _ s := clean_append (intDec_clean s) (clean_of_contains (by decide))
  str b := clean_cons (by decide) (clean_append (fun h => by simpa using (List.mem_filter.mp h).2) (clean_cons (by decide) clean_nil))
  num := intDec_clean

private theorem exDocs_clean : ∀ n, DocClean (exDocs n)
  | 0 => by unfold DocClean Clean; decide +kernel
  | 1 => by unfold DocClean Clean; decide +kernel
  | _ + 2 => by simp only [exDocs, DocClean, Clean]; decide +kernel

-- colour: escapes with colour on, none with --no-color or NO_COLOR, never in JSON
example : ESC ∈ (cliSearch {} exEngine).block := by
  rw [(block_of_answer {} exEngine rfl exLimit0 rfl (by decide) (by decide)).1]; decide +kernel
example : ESC ∉ (cliSearch { noColor := true } exEngine).block :=
  no_escapes _ _ (.inl rfl) exF_clean (fun r _ => exDocs_clean r.1)
example : ESC ∉ (cliSearch { format := bs "json" } exEngine).block :=
  block_clean _ _ (.inr (by decide)) exF_clean (fun h => absurd (by decide) h)
-- the hypothesis of `no_escapes` is needed: an entry whose command carries an escape sequence is printed raw by the list format
example : ESC ∈ (cliSearch { noColor := true } { exEngine with docs := fun _ => { command := [ESC, 0x5b, 0x6d] } }).block := by
  rw [(block_of_answer { noColor := true } { exEngine with docs := fun _ => { command := [ESC, 0x5b, 0x6d] } } rfl exLimit0 rfl (by decide) (by decide)).1]; decide +kernel
-- the hypothesis of `prints_engine` is needed: an unsorted answer is re-ordered by the CLI
example : ¬ SortedDesc ((exWorld [(0, 3), (1, 7)] none []).engine (cliOpts {} 5 [])) := by decide
-- the flag-table condition does fail on a clashing table (the pre-fix `save`)
example : noShorthandClash
    [⟨"rootCmd", "wtf", "", [], [⟨"platform", "p", "stringSlice"⟩], [], true⟩,
     ⟨"saveCmd", "save", "rootCmd", [⟨"platforms", "p", "stringSlice"⟩], [], [], true⟩]
    ⟨"saveCmd", "save", "rootCmd", [⟨"platforms", "p", "stringSlice"⟩], [], [], true⟩ = false := by decide +kernel

end examples

end Wtf.C17
