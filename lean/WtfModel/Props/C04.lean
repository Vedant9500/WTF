import WtfModel.Proofs.C04
import WtfModel.Proofs.ExampleScore

/-!
  C04 — platform and pipeline filters hold for every result on every path.

  Property theorems only (helpers: Proofs/SearchPaths.lean, Proofs/C04.lean, Proofs/SearchBasic.lean).
  `Allowed` is the property's platform clause written from its statement; `passes_iff` shows the engine's
  gate (`Filters.passes`, the model of `passesFilters`, validated against the real function by the
  `passes` op of the `search` correspondence domain and exhaustively over the tag pool × switches) is
  exactly that clause plus the pipeline clause.  `platform` / `pipeline` then hold for *every* exit of
  `search` (the model of `SearchUniversal`): lexical, NLP, typo fallback, empty — and `cli_recovery` for the
  CLI's filtered recovery answer, `legacy_pipeline` for the legacy pipeline search — for all databases, queries,
  options and all values of the parameters (`Tuning`: idf, NLP analysis, TF-IDF ranking, fuzzy sort order,
  Unicode tables, host platform); no hypothesis.  The tables `Gen.Platform.variants` /
  `crossPlatformTools` are regenerated from the source on every run; the `table_*` facts pin their meaning.
-/
namespace Wtf.C04
open Wtf.Filters Wtf.Search

variable {S : Type} [ScoreOps S]

/-- The platform clause of the property, from its statement.  A command may be returned iff all platforms
    are requested, or it declares no platform, or one of its declared platforms (other than the
    'cross-platform' tag) names a platform in force (the ones asked for, otherwise the host), or —
    unless cross-platform entries are excluded — it carries the 'cross-platform' tag or is a recognised
    cross-platform tool. -/
def Allowed (ri : RuneInfo) (host : Bytes) (o : FilterOpts) (c : Cmd) : Prop :=
  o.allPlatforms = true ∨ c.platform = [] ∨
  (∃ p ∈ c.platform, isCrossTag ri p = false ∧ declares ri (inForce host o.platforms) p = true) ∨
  (o.noCross = false ∧ ((∃ p ∈ c.platform, isCrossTag ri p = true) ∨ crossTool ri c.command = true))

/-- The engine's platform gate is the property's platform clause. -/
theorem platformOK_iff (ri : RuneInfo) (host : Bytes) (o : FilterOpts) (c : Cmd) :
    platformOK ri host o c = true ↔ Allowed ri host o c := by
  unfold platformOK Allowed
  cases hall : o.allPlatforms
  case true => simp
  by_cases hpl : c.platform = []
  · simp [hpl]
  -- the gate proper: its two `any`s are the two existentials of `Allowed`
  have hd : (c.platform.any fun p => !isCrossTag ri p && declares ri (inForce host o.platforms) p) = true ↔
      ∃ p ∈ c.platform, isCrossTag ri p = false ∧ declares ri (inForce host o.platforms) p = true := by
    simp [List.any_eq_true]
  have ht : c.platform.any (isCrossTag ri) = true ↔ ∃ p ∈ c.platform, isCrossTag ri p = true := List.any_eq_true
  have hne : c.platform.isEmpty = false := by simpa using hpl
  simp only [hne, Bool.not_false, Bool.and_self, if_true, Bool.false_eq_true, false_or, hpl, ← hd, ← ht]
  -- what is left is a table over four Booleans
  generalize (c.platform.any fun p => !isCrossTag ri p && declares ri (inForce host o.platforms) p) = d
  generalize c.platform.any (isCrossTag ri) = t
  cases d <;> cases t <;> cases o.noCross <;> cases crossTool ri c.command <;> simp

/-- The engine's gate is exactly the property's two clauses. -/
theorem passes_iff (ri : RuneInfo) (host : Bytes) (o : FilterOpts) (c : Cmd) :
    passes ri host o c = true ↔ Allowed ri host o c ∧ (o.pipelineOnly = true → isPipeline ri c = true) := by
  unfold passes
  rw [Bool.and_eq_true, platformOK_iff]
  cases o.pipelineOnly <;> cases isPipeline ri c <;> simp

/-- Platform clause on **every path** of `SearchUniversal`: each returned entry is a command of the
    database that the property allows under the options of the request. -/
theorem platform (T : Tuning S) (db : Db) (q : Bytes) (o : Opts S) (r : List (Nat × S))
    (h : search T db q o = .ok r) :
    ∀ x ∈ r, ∃ c, db[x.1]? = some c ∧ Allowed T.ri T.host o.filter c := by
  intro x hx
  obtain ⟨c, hc, hp⟩ := search_eligible h x hx
  exact ⟨c, hc, ((passes_iff _ _ _ _).mp hp).1⟩

/-- Pipeline clause on every path: in a pipeline-only search every result is a pipeline command. -/
theorem pipeline (T : Tuning S) (db : Db) (q : Bytes) (o : Opts S) (r : List (Nat × S))
    (h : search T db q o = .ok r) (hp : o.pipelineOnly = true) :
    ∀ x ∈ r, ∃ c, db[x.1]? = some c ∧ isPipeline T.ri c = true := by
  intro x hx
  obtain ⟨c, hc, hpass⟩ := search_eligible h x hx
  exact ⟨c, hc, ((passes_iff _ _ _ _).mp hpass).2 hp⟩

/-- The typo fallback alone (the path that had no gate before the fix): same two clauses. -/
theorem fuzzy_path (T : Tuning S) (db : Db) (nq : Bytes) (o : Opts S) (limit : Nat) (r : List (Nat × S))
    (h : fuzzySearch T db nq o limit = .ok r) :
    ∀ x ∈ r, ∃ c, db[x.1]? = some c ∧ Allowed T.ri T.host o.filter c ∧
      (o.pipelineOnly = true → isPipeline T.ri c = true) := by
  intro x hx
  obtain ⟨c, hc, hpass⟩ := fuzzySearch_eligible h x hx
  exact ⟨c, hc, (passes_iff _ _ _ _).mp hpass⟩

/-! ### the legacy `wtf pipeline` scorer (SearchWithPipelineOptions)

  The clause is stated on a local transliteration of the function's shape (`legacyCandidates`, Proofs/C04.lean;
  Props/C04b.lean has it for the validated model of the whole function): a loop over the
  commands in order that skips a command when `options.PipelineOnly && !isPipelineCommand(cmd)`, scores the
  rest with an arbitrary scoring function (`none` = score ≤ 0, not appended), then sorts and truncates
  (any sort: only `Perm` is used).  The platform clause is not claimed for this path (it has no platform
  notion — DESIGN.md §6 C04 scope note). -/

/-- Pipeline clause for the legacy pipeline search: whatever the scoring function, the sort and the limit,
    a pipeline-only request returns only pipeline commands. -/
theorem legacy_pipeline {S : Type} (ri : RuneInfo) (db : Db) (score : Cmd → Option S) (limit : Nat)
    (sort : List (Nat × S) → List (Nat × S)) (hsort : ∀ l, (sort l).Perm l) :
    ∀ x ∈ (sort (legacyCandidates ri true score 0 db)).take limit,
      ∃ c, db[x.1]? = some c ∧ isPipeline ri c = true := by
  intro x hx
  have hx' := (hsort _).mem_iff.mp (List.mem_of_mem_take hx)
  obtain ⟨c, hc, hg⟩ := legacyCandidates_mem ri true score db x hx'
  exact ⟨c, hc, by simpa [legacyGate] using hg⟩

/-- The CLI's last resort (`wtf <query>` when the engine returns nothing): the recovery strategies scan the
    whole database by substring, and the CLI passes what they found through `database.FilterResults` before
    truncating to the limit.  Whatever the strategies return (`recovered` is arbitrary), what is printed
    satisfies both clauses.  Tie: translator sites `c04:recovery-gate`, `c04:cli-recovery-gate` and the CLI
    stream on the real binary. -/
theorem cli_recovery {S : Type} (ri : RuneInfo) (host : Bytes) (o : FilterOpts) (db : Db)
    (recovered : List (Nat × S)) (limit : Nat) :
    ∀ x ∈ (filterResults ri host o db recovered).take limit,
      ∃ c, db[x.1]? = some c ∧ Allowed ri host o c ∧ (o.pipelineOnly = true → isPipeline ri c = true) := by
  intro x hx
  obtain ⟨c, hc, hp⟩ := filterResults_mem ri host o db recovered x (List.mem_of_mem_take hx)
  exact ⟨c, hc, (passes_iff _ _ _ _).mp hp⟩

/-- Cached answers: C05's theorem `Wtf.C05.transparent` states that an answer served from the cache equals
    the fresh answer of `search` for the same database, query and options; so any such answer inherits
    both clauses.  Stated here for an arbitrary answer that equals the fresh one. -/
theorem cached (T : Tuning S) (db : Db) (q : Bytes) (o : Opts S) (r : List (Nat × S))
    (answer : Except Fuzzy.Panic (List (Nat × S))) (htransparent : answer = search T db q o)
    (h : answer = .ok r) :
    ∀ x ∈ r, ∃ c, db[x.1]? = some c ∧ Allowed T.ri T.host o.filter c ∧
      (o.pipelineOnly = true → isPipeline T.ri c = true) := by
  intro x hx
  obtain ⟨c, hc, hpass⟩ := search_eligible (htransparent ▸ h) x hx
  exact ⟨c, hc, (passes_iff _ _ _ _).mp hpass⟩

/-! ### what the regenerated tables mean

  `Gen.Platform.variants` / `crossPlatformTools` are re-extracted from `checkPlatformVariant` and the
  `crossPlatformTools` literal on every run; these facts are re-checked by the kernel against the current
  tables: dropping an alias the property names (darwin, powershell, …), or letting a tag of one system name another, changes a
  stated fact and fails the build; adding further aliases does not.  `{}` is the
  ASCII-only rune table (all tags below are ASCII). -/

/-- host linux, no `--platform`: the linux aliases and every `linux*` tag (any case) name the platform in
    force; tags of other systems do not -/
theorem table_linux :
    (["linux", "LINUX", "Linux", "unix", "bash", "zsh", "BASH", "linux-gnu", "linux-only"].all
        (fun p => declares {} (inForce (bs "linux") []) (bs p))) = true ∧
    (["darwin", "macos", "windows", "powershell", "cmd", "plan9", "cross-platform", ""].any
        (fun p => declares {} (inForce (bs "linux") []) (bs p))) = false := by decide +kernel

/-- `--platform macos` (or host macos): `darwin` and every `macos*` tag are accepted, the names of the other systems are not.
    Only what the property's reading needs is pinned: which further aliases the table knows ("osx", "unix", …) is the
    maintainers' business - near-misses are deliberately not listed as rejected: a commit that adds `osx` as an alias
    keeps the property (tunings/T02) -/
theorem table_macos :
    (["macos", "MacOS", "darwin", "Darwin", "macos-arm"].all
        (fun p => declares {} (inForce (bs "linux") [bs "macos"]) (bs p))) = true ∧
    (["linux", "windows", "powershell", "plan9"].any
        (fun p => declares {} (inForce (bs "linux") [bs "macos"]) (bs p))) = false ∧
    declares {} (inForce (bs "linux") [bs "darwin"]) (bs "DARWIN") = true := by decide +kernel

/-- `--platform windows` (any case of the request): the four shell aliases and every `windows*` tag -/
theorem table_windows :
    (["windows", "Windows", "cmd", "powershell", "PowerShell", "windows-cmd", "windows-powershell", "windows10"].all
        (fun p => declares {} (inForce (bs "linux") [bs "WINDOWS"]) (bs p))) = true ∧
    (["linux", "darwin", "macos", "plan9"].any
        (fun p => declares {} (inForce (bs "linux") [bs "windows"]) (bs p))) = false := by decide +kernel

/-- several platforms in force: a tag naming any of them is accepted; the request overrides the host -/
theorem table_several :
    declares {} (inForce (bs "windows") [bs "linux", bs "macos"]) (bs "darwin") = true ∧
    declares {} (inForce (bs "windows") [bs "linux", bs "macos"]) (bs "zsh") = true ∧
    declares {} (inForce (bs "windows") [bs "linux", bs "macos"]) (bs "powershell") = false ∧
    declares {} (inForce (bs "windows") []) (bs "powershell") = true := by decide +kernel

/-- the cross-platform tag (any case) and the tool rule (`<tool>` alone or followed by a space, any case) -/
theorem table_cross :
    isCrossTag {} (bs "cross-platform") = true ∧ isCrossTag {} (bs "Cross-Platform") = true ∧
    isCrossTag {} (bs "crossplatform") = false ∧
    crossTool {} (bs "git status") = true ∧ crossTool {} (bs "GIT") = true ∧ crossTool {} (bs "docker ps") = true ∧
    crossTool {} (bs "gitk") = false ∧ crossTool {} (bs "mytool git") = false ∧ crossTool {} (bs "") = false := by
  decide +kernel

/-- pipeline classification: the flag, `|`, `&&`, `>>`, or "pipe" in the lower-cased command -/
theorem table_pipeline :
    isPipeline {} (Example.mk "ls" "" [] true) = true ∧ isPipeline {} (Example.mk "ls | wc" "" []) = true ∧
    isPipeline {} (Example.mk "a && b" "" []) = true ∧ isPipeline {} (Example.mk "a >> f" "" []) = true ∧
    isPipeline {} (Example.mk "PIPE it" "" []) = true ∧ isPipeline {} (Example.mk "ls > f" "a | b" []) = false := by
  decide +kernel

/-! ### non-vacuity: four commands under four option sets, and complete searches on every path -/

instance (ri : RuneInfo) (host : Bytes) (o : FilterOpts) (c : Cmd) : Decidable (Allowed ri host o c) := by
  unfold Allowed; infer_instance

section examples
open Example

def cLinux := mk "apt install" "install packages" ["linux"]
def cWin := mk "dir" "list directory" ["windows"]
def cCross := mk "mytool run" "list things" ["Cross-Platform"]
def cGit := mk "git status | less" "show status" ["macos"]

def oDefault : FilterOpts := { allPlatforms := false, platforms := [], noCross := false, pipelineOnly := false }
def oWinOnly : FilterOpts := { allPlatforms := false, platforms := [bs "windows"], noCross := true, pipelineOnly := false }
def oWin : FilterOpts := { allPlatforms := false, platforms := [bs "windows"], noCross := false, pipelineOnly := false }
def oAll : FilterOpts := { allPlatforms := true, platforms := [bs "windows"], noCross := true, pipelineOnly := true }

/-- the four vectors below in one statement: the kernel lower-cases and classifies each of the four commands once -/
theorem allowedVectors :
    (Allowed {} (bs "linux") oDefault cLinux ∧ ¬Allowed {} (bs "linux") oDefault cWin ∧
    Allowed {} (bs "linux") oDefault cCross ∧ Allowed {} (bs "linux") oDefault cGit) ∧
    (¬Allowed {} (bs "linux") oWinOnly cLinux ∧ Allowed {} (bs "linux") oWinOnly cWin ∧
    ¬Allowed {} (bs "linux") oWinOnly cCross ∧ ¬Allowed {} (bs "linux") oWinOnly cGit) ∧
    (¬Allowed {} (bs "linux") oWin cLinux ∧ Allowed {} (bs "linux") oWin cWin ∧
    Allowed {} (bs "linux") oWin cCross ∧ Allowed {} (bs "linux") oWin cGit) ∧
    (Allowed {} (bs "linux") oAll cLinux ∧ Allowed {} (bs "linux") oAll cWin ∧
    passes {} (bs "linux") oAll cGit = true ∧ passes {} (bs "linux") oAll cWin = false) := by decide +kernel

/-- host linux, default: linux-only, cross-tagged and `git …` allowed, windows-only not -/
example : Allowed {} (bs "linux") oDefault cLinux ∧ ¬Allowed {} (bs "linux") oDefault cWin ∧
    Allowed {} (bs "linux") oDefault cCross ∧ Allowed {} (bs "linux") oDefault cGit := allowedVectors.1
/-- `--platform windows --no-cross-platform`: only the windows entry; the tag and the tool rule are off -/
example : ¬Allowed {} (bs "linux") oWinOnly cLinux ∧ Allowed {} (bs "linux") oWinOnly cWin ∧
    ¬Allowed {} (bs "linux") oWinOnly cCross ∧ ¬Allowed {} (bs "linux") oWinOnly cGit := allowedVectors.2.1
/-- `--platform windows`: windows entry plus tag and tool rule -/
example : ¬Allowed {} (bs "linux") oWin cLinux ∧ Allowed {} (bs "linux") oWin cWin ∧
    Allowed {} (bs "linux") oWin cCross ∧ Allowed {} (bs "linux") oWin cGit := allowedVectors.2.2.1
/-- `--all-platforms`: everything is allowed by the platform clause; pipeline-only still selects -/
example : Allowed {} (bs "linux") oAll cLinux ∧ Allowed {} (bs "linux") oAll cWin ∧
    passes {} (bs "linux") oAll cGit = true ∧ passes {} (bs "linux") oAll cWin = false := allowedVectors.2.2.2

def exDb : Db := [cLinux, cWin, cCross, cGit]

/-- the seven vectors below in one statement: the kernel builds the index of `exDb` once for all of them -/
theorem searchVectors :
    ids (search (tuning) exDb (bs "list") opts) = some [2] ∧
    ids (search (tuning) exDb (bs "list")
    { opts with platforms := [bs "windows"], noCross := true }) = some [1] ∧
    ids (search (tuning) exDb (bs "lst") { opts with useFuzzy := true }) = some [2, 3, 0] ∧
    ids (search (tuning) exDb (bs "lst")
    { opts with useFuzzy := true, platforms := [bs "windows"], noCross := true }) = some [1] ∧
    ids (search (tuning) exDb (bs "lst") { opts with useFuzzy := true, allPlatforms := true }) = some [2, 3, 1, 0] ∧
    ids (search (tuning) exDb (bs "status") { opts with pipelineOnly := true }) = some [3] ∧
    ids (search (tuning) exDb (bs "stts") { opts with pipelineOnly := true, useFuzzy := true }) = some [3] := by decide +kernel

/-- lexical path, host linux: "list" occurs in the windows entry (1) and the cross-tagged one (2); only 2 is returned -/
example : ids (search (tuning) exDb (bs "list") opts) = some [2] := searchVectors.1
/-- the same query with `--platform windows --no-cross-platform` returns the windows entry only -/
example : ids (search (tuning) exDb (bs "list")
    { opts with platforms := [bs "windows"], noCross := true }) = some [1] := searchVectors.2.1
/-- typo fallback ("lst" is no word of the database): host default drops the windows entry … -/
example : ids (search (tuning) exDb (bs "lst") { opts with useFuzzy := true }) = some [2, 3, 0] := searchVectors.2.2.1
/-- … `--platform windows --no-cross-platform` keeps only it, `-a` keeps all matches -/
example : ids (search (tuning) exDb (bs "lst")
    { opts with useFuzzy := true, platforms := [bs "windows"], noCross := true }) = some [1] := searchVectors.2.2.2.1
example : ids (search (tuning) exDb (bs "lst") { opts with useFuzzy := true, allPlatforms := true }) = some [2, 3, 1, 0] := searchVectors.2.2.2.2.1
/-- pipeline-only, lexical and fallback: only the `git … | less` entry -/
example : ids (search (tuning) exDb (bs "status") { opts with pipelineOnly := true }) = some [3] := searchVectors.2.2.2.2.2.1
example : ids (search (tuning) exDb (bs "stts") { opts with pipelineOnly := true, useFuzzy := true }) = some [3] := searchVectors.2.2.2.2.2.2
/-- the legacy gate: pipeline-only keeps exactly the pipeline command -/
example : (legacyCandidates {} true (fun _ => some (1 : Nat)) 0 exDb).map (·.1) = [3] := by decide +kernel

end examples

end Wtf.C04
