import WtfModel.Props.C12
import WtfModel.Proofs.LruCode
/-
  C12 (also the LRU layer under C05 and C11) — the model these theorems are about is the source's control flow.

  `Gen/LruCode.lean` holds the bodies of Get, Put, Delete, Clear, CleanupExpired, Size and evictOldest of
  internal/cache/lru_cache.go, translated statement by statement on every run into the statement language of
  `Model/LruProg.lean` (xlate/x_lrucode.go; the translator also asserts the body of removeElement and that no other method
  stores to the cache's fields).  Running the translated programs is the hand-written model, for every state, time and
  argument (`step_regenerated`), hence for every history (`run_regenerated`), hence every C12 theorem speaks about the
  translated programs (`bounded_regenerated` spells one out).  Stats and Keys only read fields and stay as written.
-/
namespace Wtf.C12
open Wtf.Lru Wtf.LruProg

variable {κ ν : Type} [DecidableEq κ]

/-- one operation, executed by the translated method body -/
def stepGen (s : State κ ν) (now : Int) : Op κ ν → State κ ν × Out κ ν
  | .get k => call Gen.LruCode.get s { now := now, key := some k }
  | .put k v => call Gen.LruCode.put s { now := now, key := some k, value := some v }
  | .delete k => call Gen.LruCode.delete s { now := now, key := some k }
  | .clear => call Gen.LruCode.clear s { now := now }
  | .cleanup => call Gen.LruCode.cleanupExpired s { now := now }
  | .size => call Gen.LruCode.size s { now := now }
  | .stats => (s, .stats s.hits s.misses s.evictions s.entries.length s.cap)
  | .keys => (s, .keys (s.entries.map (·.key)))

def runGen (s : State κ ν) : List (Int × Op κ ν) → State κ ν × List (Out κ ν)
  | [] => (s, [])
  | (now, op) :: rest =>
    let r := stepGen s now op
    let r' := runGen r.1 rest
    (r'.1, r.2 :: r'.2)

/-- every operation of the model is the translated method body, run on the same state -/
theorem step_regenerated (s : State κ ν) (now : Int) (op : Op κ ν) : stepGen s now op = Lru.step s now op := by
  cases op with
  | get k => exact get_eq s now k
  | put k v => exact put_eq s now k v
  | delete k => exact delete_eq s now k
  | clear => exact clear_eq s now
  | cleanup => exact cleanup_eq s now
  | size => exact size_eq s now
  | stats => rfl
  | keys => rfl

/-- … hence every history -/
theorem run_regenerated (s : State κ ν) (hist : List (Int × Op κ ν)) : runGen s hist = Lru.run s hist := by
  induction hist generalizing s with
  | nil => rfl
  | cons x rest ih => simp only [runGen, Lru.run, step_regenerated, ih]

/-- the translated body of evictOldest is what the call statement in Put means -/
theorem evictOldest_regenerated (s : State κ ν) (now : Int) :
    (call Gen.LruCode.evictOldest s ({ now := now } : Args κ ν)).1 = evictOldestSem s := LruProg.evictOldest_eq s now

/-- `bounded`, stated about the translated programs: after any history executed by them the cache holds at most its
    capacity and no key twice -/
theorem bounded_regenerated (cap ttl : Int) (hist : List (Int × Op κ ν)) :
    let s := (runGen (init D cap ttl : State κ ν) hist).1
    s.cap = effCap D cap ∧ 0 < s.cap ∧ s.entries.length ≤ s.cap ∧ (s.entries.map (·.key)).Nodup := by
  rw [run_regenerated]
  exact bounded cap ttl hist

/-- non-vacuity: the translated Put on a full cache of capacity 1 evicts -/
example : (runGen (init D 1 0 : State Nat Nat) [(0, .put 1 10), (1, .put 2 20), (2, .size)]).2 = [.unit, .unit, .nat 1] := by
  rfl

end Wtf.C12
