import WtfModel.Model.Search
import WtfModel.Proofs.NormQ

/-!
  C20 — letter case and spare white space in the query never change the answer.

  At /repo HEAD `SearchUniversal` first replaces the query by `strings.ToLower(strings.TrimSpace(query))`
  (the translator asserts this shape: fact `engineNormalisesQuery`, C05) and every later stage — tokeniser,
  NLP analysis, TF-IDF re-ranker, typo fallback — receives only that normal form.  The model mirrors it
  (`Tuning.normQ`), so the theorems below hold on every path (lexical, NLP, fuzzy) and for all options.
  "Differ only in the case of their letters" is formalised as `CaseVariant`: the same number of runes, and
  corresponding runes have the same lower-case form (e.g. k / K / U+212A KELVIN SIGN).  At U+0130 the relation is
  wider than the property's wording: U+0130 lower-cases to `i` without folding to it (the property's documented
  exception), and `CaseVariant` relates it to `i` all the same, since the engine lower-cases and does not fold.
-/
namespace Wtf.C20
open Wtf.Search Wtf.GoStr Wtf.NormQ Wtf.Utf8

/-- The engine sees a query only through its normal form: equal normal forms ⇒ identical answers,
    on every path and for all options (scores included). -/
theorem search_normal_form {S : Type} [ScoreOps S] (T : Tuning S) (db : Db) (q q' : Bytes) (o : Opts S)
    (h : T.normQ q = T.normQ q') : search T db q o = search T db q' o := by
  unfold search
  rw [h]

/-- `q'` re-spells `q`: rune for rune, the same lower-case form (invalid bytes stand for themselves) -/
def CaseVariant (ri : RuneInfo) (q q' : Bytes) : Prop :=
  (runes q).map ri.lower = (runes q').map ri.lower

/-- strings.ToLower identifies case variants -/
theorem toLower_caseVariant (ri : RuneInfo) (q q' : Bytes) (h : CaseVariant ri q q') :
    toLower ri q = toLower ri q' := by
  rw [toLower_eq_gen, toLower_eq_gen, toLowerGen_runes, toLowerGen_runes, h]

/-- Case variants of the (already trimmed) query get the same answer. -/
theorem case_insensitive {S : Type} [ScoreOps S] (T : Tuning S) (ri : RuneInfo) (db : Db) (q q' : Bytes)
    (o : Opts S) (hT : T.normQ = normQ ri) (htrim : CaseVariant ri (trimSpace ri q) (trimSpace ri q')) :
    search T db q o = search T db q' o := by
  apply search_normal_form
  rw [hT]
  exact toLower_caseVariant ri _ _ htrim

/-- Outer white space never matters: queries with the same trimmed form get the same answer. -/
theorem padding_insensitive {S : Type} [ScoreOps S] (T : Tuning S) (ri : RuneInfo) (db : Db) (q q' : Bytes)
    (o : Opts S) (hT : T.normQ = normQ ri) (h : trimSpace ri q = trimSpace ri q') :
    search T db q o = search T db q' o := by
  apply search_normal_form
  rw [hT, normQ, normQ, h]

/-- The cache key's query component is the same normal form, so case variants share an entry safely
    (C05 proves that sharing is sound; this is the "same key" half). -/
theorem same_key_component (ri : RuneInfo) (q q' : Bytes)
    (h : CaseVariant ri (trimSpace ri q) (trimSpace ri q')) : normQ ri q = normQ ri q' :=
  toLower_caseVariant ri _ _ h

/-! Non-vacuity -/
private def kelvin : RuneFacts :=
  { cp := 0x212A, lower := 0x6B, foldRep := 0x4B, isLower := false, isUpper := true, isSpace := false, isLetNum := true }
private def dotI : RuneFacts :=
  { cp := 0x130, lower := 0x69, foldRep := 0x130, isLower := false, isUpper := true, isSpace := false, isLetNum := true }
private def ri0 : RuneInfo := { table := [kelvin, dotI] }

/-- "looK" written with KELVIN SIGN is a case variant of "look" … -/
example : CaseVariant ri0 [0x6C, 0x6F, 0x6F, 0x6B] [0x6C, 0x6F, 0x6F, 0xE2, 0x84, 0xAA] := by
  unfold CaseVariant; decide
/-- … and "LOOK" of "look" -/
example : CaseVariant ri0 [0x4C, 0x4F, 0x4F, 0x4B] [0x6C, 0x6F, 0x6F, 0x6B] := by unfold CaseVariant; decide
/-- U+0130 lower-cases to `i` although it does not fold to it: the documented exception of the property -/
example : (runes [0xC4, 0xB0]).map ri0.lower = [0x69] ∧ ri0.eqFold 0x130 0x69 = false := by decide

end Wtf.C20
