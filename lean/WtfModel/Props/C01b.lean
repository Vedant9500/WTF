import WtfModel.Props.C01
import WtfModel.Model.Modelled
import WtfModel.Proofs.LegacyEntry
import WtfModel.Proofs.ExampleScore

/-!
  C01, continued — the legacy entry points of internal/database/search.go with the legacy scorer
  `calculateScore` MODELLED (Model/LegacyScore.lean, Model/LegacyEntry.lean) instead of uninterpreted:

    SearchWithPipelineOptions (`wtf pipeline`)     `legacy_pipeline_modelled`
    SearchWithOptions                             `search_with_options`
    combineAndDeduplicateResults                   `combine_results`, `combine_exact_first`
    SearchWithFuzzy                               `search_with_fuzzy`
    SearchWithNLP                                  `search_with_nlp_off`, `search_with_nlp_shared_partial`,
                                                   `search_with_nlp_temporary_partial`, `search_with_nlp_duplicate`
    GetSuggestions                                 `suggestions`, `suggestion_words_deterministic`
    calculateScore                                 `legacy_score_nonneg`, `legacy_score_can_be_negative`

  Scope.  C01 quantifies over "every public search entry point the CLI or the cache layer uses": of the
  functions above that is SearchWithPipelineOptions (cli/pipeline.go) and GetSuggestions (cli/search.go).
  SearchWithOptions, SearchWithFuzzy and SearchWithNLP are exported but called by nothing outside search.go;
  they are modelled and proved as far as the clauses hold, and where they do not the full statement stays
  visible with a witness:

  * FULL (does not hold): `∀ …, searchWithNLP … = .ok r → (r.map (·.1)).Nodup`.  On a database value without
    shared TF-IDF searcher (`db.tfidf == nil`: built without LoadDatabase) the results of the temporary
    searcher and of the fallback search are appended without de-duplication: `search_with_nlp_duplicate`
    (replayed on the real code: entries [tar | ls -la | zip], query "tar" → positions [0, 0, 2]).
    Proved instead: all five clauses on the shared-searcher branch (`…_shared_partial`), the other four on
    the temporary branch (`…_temporary_partial`).  Out of the property's scope (lead's decision); the
    harness counts it under `out-of-scope:SearchWithNLP-no-searcher-duplicate`.
  * SearchWithOptions / the exact half of SearchWithFuzzy never read Platforms / NoCrossPlatform /
    AllPlatforms / PipelineOnly: only the host gate is claimed for them (Props/C04b.lean).

  Negative context boosts: `calculateScore` itself CAN be negative (`legacy_score_can_be_negative`), but no
  negative, zero or NaN score is ever returned: every entry point appends a result only after `score > 0`
  (`…_pos` conjuncts below, no hypothesis on the boosts).  Non-negativity of `calculateScore` needs exactly:
  every context boost ≥ 0 and `finiteScore` keeps non-negative values non-negative (`legacy_score_nonneg`).

  "Finite": no content in an ordered field.  On the floats the per-word category factors multiply without
  bound; since the repair F28 `finiteScore` saturates +Inf at math.MaxFloat64 after the last multiplication
  on each path (model: the parameter `fin`, the IEEE function in the driver).  The `overflow` stream of the
  `legacy2` domain (hundreds of repetitions of "zip"/"tar") checks that on the real code and on the model.
-/
namespace Wtf.C01
open Wtf.Search Wtf.LegacyScore Wtf.LegacyEntry ScoreOps ScoreLaws

/-! ### regenerated literals and defaults (re-checked by the kernel on every run) -/

/-- every literal of the legacy scorer and every value of the category rule table is non-negative; the
    default limits are positive (so no slice expression is reached with a non-positive bound) -/
theorem legacy_literals :
    (Gen.LegacyScore.categoryRules.all (fun r => rulesNonneg r.2.1 && decide (QNonneg r.2.2)) = true) ∧
    QNonneg Gen.LegacyScore.cmdExact ∧ QNonneg Gen.LegacyScore.cmdPrefix ∧ QNonneg Gen.LegacyScore.cmdWord ∧
    QNonneg Gen.LegacyScore.cmdContains ∧ QNonneg Gen.LegacyScore.domainScore ∧ QNonneg Gen.LegacyScore.keywordExact ∧
    QNonneg Gen.LegacyScore.keywordPartial ∧ QNonneg Gen.LegacyScore.descWord ∧ QNonneg Gen.LegacyScore.descPartial ∧
    QNonneg Gen.LegacyScore.tagExact ∧ QNonneg Gen.LegacyScore.tagPartial ∧ QNonneg Gen.LegacyScore.directBonus ∧
    QNonneg Gen.LegacyScore.commandBonus ∧ QNonneg Gen.LegacyScore.nicheFactor ∧ QNonneg Gen.LegacyScore.crossPlatformPenalty ∧
    QNonneg Gen.LegacyScore.fuzzyDiscount ∧ QNonneg Gen.LegacyScore.similarityScale ∧ QNonneg Gen.LegacyScore.fallbackPriority ∧
    0 < Gen.LegacyScore.optionsDefaultLimit ∧ 0 < Gen.LegacyScore.pipelineDefaultLimit ∧
    0 < Gen.LegacyScore.fuzzyDefaultLimit ∧ 0 < Gen.LegacyScore.nlpDefaultLimit ∧ 0 < Gen.LegacyScore.suggestDefaultMax ∧
    0 < Gen.LegacyScore.exactMultiplier ∧
    Gen.LegacyScore.fuzzyBaseA = Gen.Constants.FuzzyNormalizationBase ∧ Gen.LegacyScore.fuzzyBaseB = Gen.Constants.FuzzyNormalizationBase ∧
    Gen.LegacyScore.pipelineDefaultLimit = Gen.Constants.DefaultSearchLimit := by decide +kernel

/-- the limits in force: the requested one, or the regenerated default when none / a non-positive one is given -/
theorem legacy_limits_in_force (limit : Int) :
    (limit ≤ 0 → optionsLimit limit = Gen.LegacyScore.optionsDefaultLimit ∧ pipelineLimit limit = Gen.LegacyScore.pipelineDefaultLimit ∧
      fuzzyLimit limit = Gen.LegacyScore.fuzzyDefaultLimit ∧ nlpLimit limit = Gen.LegacyScore.nlpDefaultLimit ∧
      suggestMax limit = Gen.LegacyScore.suggestDefaultMax) ∧
    (0 < limit → optionsLimit limit = limit ∧ pipelineLimit limit = limit ∧ fuzzyLimit limit = limit ∧ nlpLimit limit = limit ∧
      suggestMax limit = limit) := by
  unfold optionsLimit pipelineLimit fuzzyLimit nlpLimit suggestMax
  constructor
  · intro h; simp [h]
  · intro h
    have : ¬ limit ≤ 0 := by omega
    simp [this]

variable {S : Type} [ScoreOps S] [ScoreLaws S]

/-- **calculateScore ≥ 0** for every command and query when every context boost is ≥ 0 and `finiteScore`
    keeps non-negative values non-negative.  (Both hold for the IEEE `finiteScore`; the boosts are the caller's.) -/
theorem legacy_score_nonneg {fin : S → S} (hfin : FinOK fin) (ri : RuneInfo) (boosts : List (Bytes × S))
    (hb : BoostsNonneg boosts) (c : Cmd) (q : Bytes) :
    Nonneg (calculateScore fin ri boosts c (queryWords ri q)) :=
  calculateScore_nonneg ri hb c hfin _

/-- the summands and factors are non-negative whatever the boosts: calculateWordScore and the category product -/
theorem legacy_score_parts_nonneg (ri : RuneInfo) (w : Bytes) (c : Cmd) (words : List Bytes) :
    Nonneg (wordScore ri w c : S) ∧ Nonneg (categoryBoost ri c words : S) :=
  ⟨wordScore_nonneg ri w c, categoryBoost_nonneg ri c words⟩

/-- … and with a negative boost it is negative: command `tar`, query "tar", boost −1 for "tar" gives −162
    (the value the real `calculateScore` returns, harness tag `legacy2.score-negative`) -/
theorem legacy_score_can_be_negative :
    calculateScore (S := Q) (fun x => x) {} [(Filters.bs "tar", ⟨-1, 1⟩)] (Example.mk "tar" "archive files" [])
      (queryWords {} (Filters.bs "tar")) = ⟨-810, 5⟩ := by decide +kernel

/-! ### SearchWithPipelineOptions with the modelled scorer (what `wtf pipeline` runs) -/

/-- **C01, SearchWithPipelineOptions**, scorer modelled: the five clauses and strict positivity of every
    returned score — for every `finiteScore`, every boost (negative, zero, huge), no hypothesis. -/
theorem legacy_pipeline_modelled (fin : S → S) (ri : RuneInfo) (db : Db) (q : Bytes) (o : Opts S) :
    let r := searchPipeline fin ri db q o
    r.length ≤ (pipelineLimit o.limit).toNat ∧ (∀ x ∈ r, x.1 < db.length) ∧ (r.map (·.1)).Nodup ∧
    r.Pairwise (fun a b => lt a.2 b.2 = false) ∧ (∀ x ∈ r, Nonneg x.2) ∧ (∀ x ∈ r, Pos x.2) :=
  let p := searchPipeline_post fin ri db q o
  ⟨p.bounded, p.real, p.nodup, p.sorted, p.nonneg, searchPipeline_pos fin ri db q o⟩

/-- **C01, SearchWithOptions**: the five clauses and strict positivity, no hypothesis. -/
theorem search_with_options (fin : S → S) (ri : RuneInfo) (host : Bytes) (db : Db) (q : Bytes) (limit : Int)
    (boosts : List (Bytes × S)) :
    let r := searchWithOptions fin ri host db q limit boosts
    r.length ≤ (optionsLimit limit).toNat ∧ (∀ x ∈ r, x.1 < db.length) ∧ (r.map (·.1)).Nodup ∧
    r.Pairwise (fun a b => lt a.2 b.2 = false) ∧ (∀ x ∈ r, Nonneg x.2) ∧ (∀ x ∈ r, Pos x.2) :=
  let p := searchWithOptions_post fin ri host db q limit boosts
  ⟨p.bounded, p.real, p.nodup, p.sorted, p.nonneg, searchWithOptions_pos fin ri host db q limit boosts⟩

/-- **combineAndDeduplicateResults**: for any two lists of valid positions with non-negative scores the
    result has at most `limit` entries, valid positions, no position twice (indeed no command/description
    text twice), non-increasing non-negative scores. -/
theorem combine_results (db : Db) (exact fuzzy : List (Nat × S)) (limit : Nat)
    (he : ∀ x ∈ exact, x.1 < db.length ∧ Nonneg x.2) (hf : ∀ x ∈ fuzzy, x.1 < db.length ∧ Nonneg x.2) :
    let r := combine db exact fuzzy limit
    r.length ≤ limit ∧ (∀ x ∈ r, x.1 < db.length) ∧ (r.map (·.1)).Nodup ∧
    r.Pairwise (fun a b => lt a.2 b.2 = false) ∧ (∀ x ∈ r, Nonneg x.2) ∧
    ((combinedList db exact fuzzy).map (fun x => dedupKey db x.1)).Nodup :=
  let p := combine_post db limit he hf
  ⟨p.bounded, p.real, p.nodup, p.sorted, p.nonneg, combinedList_keys_nodup db exact fuzzy⟩

/-- "exact results first": `combined` is the kept exact results followed by the kept typo results, and after
    the stable sort an exact result still precedes every typo result that does not score strictly higher. -/
theorem combine_exact_first (db : Db) (exact fuzzy : List (Nat × S)) :
    combinedList db exact fuzzy = exactPart db exact ++ typoPart db exact fuzzy ∧
    ((exactPart db exact).map (·.1)).Sublist (exact.map (·.1)) ∧ (∀ x ∈ exactPart db exact, x ∈ exact) ∧
    ∀ a ∈ exactPart db exact, ∀ b ∈ typoPart db exact fuzzy, lt a.2 b.2 = false →
      [a, b].Sublist (sortDesc (·.2) (combinedList db exact fuzzy)) :=
  ⟨rfl, (exactPart_sublist db exact).map _, fun _ hx => (exactPart_sublist db exact).subset hx,
   fun _ ha _ hb h => LegacyEntry.combine_exact_first ha hb h⟩

/-- **C01, SearchWithFuzzy**: the five clauses with the limit in force on all three exits (good exact
    results / combined with the typo results / exact results only), for all parameter values. -/
theorem search_with_fuzzy (fin : S → S) (T : Tuning S) (db : Db) (q : Bytes) (o : Opts S) (r : List (Nat × S))
    (h : searchWithFuzzy fin T db q o = .ok r) :
    r.length ≤ (fuzzyLimit o.limit).toNat ∧ (∀ x ∈ r, x.1 < db.length) ∧ (r.map (·.1)).Nodup ∧
    r.Pairwise (fun a b => lt a.2 b.2 = false) ∧ (∀ x ∈ r, Nonneg x.2) :=
  (searchWithFuzzy_post h).clauses

omit [ScoreLaws S] in
/-- with `UseNLP` off it is SearchWithFuzzy -/
theorem search_with_nlp_off (fin : S → S) (T : Tuning S) (tmp : Bytes → List (Nat × S)) (db : Db) (q : Bytes) (o : Opts S)
    (h : o.useNLP = false) : searchWithNLP fin T tmp db q o = searchWithFuzzy fin T db q o := by
  unfold searchWithNLP; simp [h]

/-- **C01, SearchWithNLP, shared-searcher branch** (`_partial`: the full statement over both branches fails,
    see the header): all five clauses.  Hypothesis: the ranking is duplicate-free, best first, non-negative —
    `tfidf_model_rank_ok` proves that for the model of `TFIDFSearcher.Search`. -/
theorem search_with_nlp_shared_partial (fin : S → S) (T : Tuning S) (tmp : Bytes → List (Nat × S)) (db : Db) (q : Bytes)
    (o : Opts S) (hu : o.useNLP = true) (rank : Bytes → List (Nat × S)) (hs : T.tfidf = some rank) (hr : RankOK (rank q))
    (r : List (Nat × S)) (h : searchWithNLP fin T tmp db q o = .ok r) :
    r.length ≤ (nlpLimit o.limit).toNat ∧ (∀ x ∈ r, x.1 < db.length) ∧ (r.map (·.1)).Nodup ∧
    r.Pairwise (fun a b => lt a.2 b.2 = false) ∧ (∀ x ∈ r, Nonneg x.2) := by
  rw [searchWithNLP_on hu, hs] at h
  cases h
  exact (nlpShared_post db rank q (nlpLimit o.limit) hr).clauses

/-- the model of the TF-IDF searcher satisfies `RankOK` for every non-negative similarity threshold -/
theorem tfidf_model_rank_ok (ri : RuneInfo) (sqrt : S → S) (minSim : S) (hm : Nonneg minSim) (idx : Tfidf.Index S)
    (q : Bytes) (limit : Nat) : RankOK (Tfidf.search ri sqrt minSim idx q limit) :=
  tfidf_search_rankOK ri sqrt minSim hm idx q limit

/-- **C01, SearchWithNLP, temporary-searcher branch** (`_partial`): bounded, valid positions, non-increasing,
    non-negative — NOT duplicate-free (`search_with_nlp_duplicate`).  Hypotheses: the temporary ranking names
    valid positions with non-negative similarities, `calculateIntentBoost ≥ 0` (monitored: oracle-negative-factor). -/
theorem search_with_nlp_temporary_partial (fin : S → S) (T : Tuning S) (tmp : Bytes → List (Nat × S)) (db : Db) (q : Bytes)
    (o : Opts S) (hu : o.useNLP = true) (hs : T.tfidf = none)
    (htmp : ∀ x ∈ tmp q, x.1 < db.length ∧ Nonneg x.2) (hib : ∀ d, Nonneg ((T.nlp q).intentBoost d))
    (r : List (Nat × S)) (h : searchWithNLP fin T tmp db q o = .ok r) :
    r.length ≤ (nlpLimit o.limit).toNat ∧ (∀ x ∈ r, x.1 < db.length) ∧
    r.Pairwise (fun a b => lt a.2 b.2 = false) ∧ (∀ x ∈ r, Nonneg x.2) := by
  rw [searchWithNLP_on hu, hs] at h
  exact nlpTemporary_partial htmp hib h

/-! ### SearchUniversal with every modelled layer plugged in -/

/-- **C01, SearchUniversal, end to end over the modelled layers**: the five clauses hold for every database, query and
    option set as soon as (1) `idf n df ≥ 0` for `df ≤ n` — a fact about `math.Log` of a number ≥ 1, proved for the
    real-valued formula (`idf_formula_nonneg`) and monitored on the floats; (2) the fuzzy library's sort returns a sorted
    permutation of its input (checked per case by the driver); (3) the similarity threshold is non-negative (the code's is
    0.01).  No hypothesis about the NLP analysis, the NLP factors, the TF-IDF ranking or the BM25F parameters is left. -/
theorem universal_modelled (idf : Nat → Nat → S) (host : Bytes) (ri : RuneInfo) (normQ : Bytes → Bytes)
    (fuzzySort : List (Nat × Int) → List (Nat × Int)) (sqrt : S → S) (minSim : S) (idx? : Option (Tfidf.Index S)) (db : Db)
    (hidf : ∀ n df, df ≤ n → lt (idf n df) (zero : S) = false)
    (hfz : ∀ ms, (fuzzySort ms).Perm ms ∧ (fuzzySort ms).Pairwise (fun a b => a.2 ≥ b.2))
    (hmin : Nonneg minSim)
    (q : Bytes) (o : Opts S) (r : List (Nat × S))
    (h : search (modelledTuning idf host ri normQ fuzzySort sqrt minSim idx? db) db q o = .ok r) :
    r.length ≤ effLimit o ∧ (∀ x ∈ r, x.1 < db.length) ∧ (r.map (·.1)).Nodup ∧
    r.Pairwise (fun a b => lt a.2 b.2 = false) ∧ (∀ x ∈ r, Nonneg x.2) := by
  have hR : TuningWFRest (modelledTuning idf host ri normQ fuzzySort sqrt minSim idx? db) := by
    refine ⟨genParams_wf, hidf, fun rank hr nq x hx => ?_, hfz⟩
    cases idx? with
    | none => simp [modelledTuning] at hr
    | some idx =>
      simp only [modelledTuning, Option.map_some, Option.some.injEq] at hr
      subst hr
      exact (tfidf_search_rankOK ri sqrt minSim hmin idx nq db.length).2.2 x hx
  exact universal_modelled_nlp _ db rfl hR q o r h

omit [ScoreOps S] [ScoreLaws S] in
/-- **GetSuggestions**: at most `max` suggestions (the default when `max ≤ 0`), each one a word of the
    candidate list; no suggestion twice when the candidate list has no word twice and the library's sort
    permutes its matches. -/
theorem suggestions (T : Tuning S) (db : Db) (q : Bytes) (m : Int) (r : List Bytes) (h : getSuggestions T db q m = .ok r) :
    r.length ≤ (suggestMax m).toNat ∧ (∀ w ∈ r, w ∈ suggestionWords T.ri db) ∧
    (FuzzySortOK T → (suggestionWords T.ri db).Nodup → r.Nodup) :=
  getSuggestions_spec h

/-- **the candidate list is deterministic**: `sort.Strings` of the keys of `wordSet` is ascending in Go's string
    order, duplicate-free, depends only on WHICH words were inserted, and every enumeration of the key set
    (Go: map iteration order) sorts to it; after the NUL replacement it is still duplicate-free provided no
    inserted word contains a space (strings.Fields / Trim / ToLower never produce one). -/
theorem suggestion_words_deterministic (ri : RuneInfo) (db : Db) :
    (Tfidf.sortWords (Tfidf.dedup (wordInsertions ri db))).Pairwise (fun a b => Metrics.bytesLe a b = true) ∧
    (Tfidf.sortWords (Tfidf.dedup (wordInsertions ri db))).Nodup ∧
    (∀ l', (∀ w, w ∈ l' ↔ w ∈ wordInsertions ri db) →
      Tfidf.sortWords (Tfidf.dedup l') = Tfidf.sortWords (Tfidf.dedup (wordInsertions ri db))) ∧
    (∀ σ : List Bytes, σ.Nodup → (∀ w, w ∈ σ ↔ w ∈ wordInsertions ri db) →
      Tfidf.sortWords σ = Tfidf.sortWords (Tfidf.dedup (wordInsertions ri db))) ∧
    (SpaceFree ri db → (suggestionWords ri db).Nodup) :=
  ⟨(sortedWords_spec _).1, (sortedWords_spec _).2.1, fun l' h => sortedWords_set_only l' _ h,
   fun σ hσ hm => sortedWords_any_enumeration _ σ hσ hm, suggestionWords_nodup⟩

/-! ### witnesses and non-vacuity (kernel-evaluated on the core-only fraction type `Q`) -/
section examples
open Wtf.Example Wtf.Filters

private def dbL : Db := [mk "tar" "archive files" [], mk "ls -la" "list directory" [], mk "zip" "zip things" [],
  mk "ipconfig /all" "show adapters" ["windows"], mk "git log | head" "show history" ["windows"]]

private def oL : Opts Q := { pipelineBoost := ⟨2, 1⟩ }

private def idQ : Q → Q := fun x => x

/-- parameters of the witness: the NLP layer returns the query word itself as enhanced keyword, intent boost 1;
    the temporary TF-IDF searcher ranks entry 0 with similarity 1/2 -/
private def TW : Tuning Q :=
  { Example.tuning with nlp := fun _ => { enhanced := [bs "tar"], intentBoost := fun _ => ⟨1, 1⟩, cascade := fun _ => ⟨1, 1⟩ } }

private def tmpW : Bytes → List (Nat × Q) := fun _ => [(0, ⟨1, 2⟩)]

/-- **the full duplicate-freeness of SearchWithNLP fails** on the branch without shared searcher: entry 0 is
    returned twice (once by the temporary searcher, once by the fallback search). -/
theorem search_with_nlp_duplicate :
    ∃ r, searchWithNLP idQ TW tmpW dbL (bs "tar") { oL with useNLP := true, limit := 5 } = .ok r ∧
      (r.map (·.1)).Perm [0, 0] ∧ ¬ (r.map (·.1)).Nodup := by
  -- the list before the final stable sort, evaluated by the kernel: entry 0 from the temporary searcher, entry 0 from the fallback
  have hu : ((nlpTemporaryUnsorted idQ TW tmpW dbL (bs "tar") { oL with useNLP := true, limit := 5 } 5).toOption.map
      (fun l => (l.map (·.1), decide (l.length ≤ 5)))) = some ([0, 0], true) := by decide +kernel
  -- by the two tests of SearchWithNLP, not `rfl`: the kernel would compare the two searches by evaluating them
  have he : searchWithNLP idQ TW tmpW dbL (bs "tar") { oL with useNLP := true, limit := 5 } =
      nlpTemporary idQ TW tmpW dbL (bs "tar") { oL with useNLP := true, limit := 5 } 5 := by
    rw [searchWithNLP_on rfl, show TW.tfidf = none from rfl]
    rfl
  rw [he, nlpTemporary_eq]
  cases hl : nlpTemporaryUnsorted idQ TW tmpW dbL (bs "tar") { oL with useNLP := true, limit := 5 } 5 with
  | error e => rw [hl] at hu; simp [Except.toOption] at hu
  | ok l =>
    rw [hl] at hu
    simp only [Except.toOption, Option.map_some, Option.some.injEq, Prod.mk.injEq, decide_eq_true_eq] at hu
    have hp := ids_perm_of_short hu.2
    rw [hu.1] at hp
    exact ⟨_, rfl, hp, fun hn => by have := hp.nodup_iff.mp hn; simp at this⟩

/-- the seven vectors below in one statement: the kernel lower-cases the commands of `dbL`, splits them into words and
    builds the suggestion list once for all of them -/
theorem legacyVectors :
    ((searchWithOptions idQ {} (bs "linux") dbL (bs "zip") 0 []).map (·.1) = [2]) ∧
    ((searchWithOptions idQ {} (bs "linux") dbL (bs "show") 0 []).map (·.1) = [4]) ∧
    ((searchPipeline idQ {} dbL (bs "show") { oL with pipelineOnly := true }).map (·.1) = [4]) ∧
    (searchWithOptions idQ {} (bs "linux") dbL (bs "tar") 0 [(bs "tar", ⟨-1, 1⟩)] = []) ∧
    (((searchWithFuzzy idQ Example.tuning dbL (bs "zp thngs") { oL with useFuzzy := true }).toOption.map (·.map (·.1))) = some [2]) ∧
    (suggestionWords {} dbL = [bs "/all", bs "adapters", bs "archive", bs "git", bs "head", bs "history", bs "ipconfig",
    bs "list", bs "log", bs "show", bs "tar", bs "things", bs "zip"]) ∧
    ((getSuggestions Example.tuning dbL (bs "histry") 3).toOption = some [bs "history"]) := by decide +kernel

-- SearchWithOptions: "zip" finds the command `zip` (exact command match, category factor 3, direct-match bonus)
example : (searchWithOptions idQ {} (bs "linux") dbL (bs "zip") 0 []).map (·.1) = [2] := legacyVectors.1
-- … the host gate drops the windows-only `ipconfig`, keeps the windows-tagged cross-platform tool `git` (penalised)
example : (searchWithOptions idQ {} (bs "linux") dbL (bs "show") 0 []).map (·.1) = [4] := legacyVectors.2.1
-- pipeline search: only the pipeline command survives `PipelineOnly`
example : (searchPipeline idQ {} dbL (bs "show") { oL with pipelineOnly := true }).map (·.1) = [4] := legacyVectors.2.2.1
-- a negative boost makes the only candidate's score negative: nothing is returned
example : searchWithOptions idQ {} (bs "linux") dbL (bs "tar") 0 [(bs "tar", ⟨-1, 1⟩)] = [] := legacyVectors.2.2.2.1
-- SearchWithFuzzy, typo query: the exact half finds nothing, the typo half finds `zip things`
example : ((searchWithFuzzy idQ Example.tuning dbL (bs "zp thngs") { oL with useFuzzy := true }).toOption.map (·.map (·.1))) = some [2] := legacyVectors.2.2.2.2.1
-- GetSuggestions: candidates are sorted words of more than two bytes that are not common words
example : suggestionWords {} dbL = [bs "/all", bs "adapters", bs "archive", bs "git", bs "head", bs "history", bs "ipconfig",
    bs "list", bs "log", bs "show", bs "tar", bs "things", bs "zip"] := legacyVectors.2.2.2.2.2.1
example : (getSuggestions Example.tuning dbL (bs "histry") 3).toOption = some [bs "history"] := legacyVectors.2.2.2.2.2.2

end examples

/-! non-vacuity of `universal_modelled` (S := ℚ): a concrete idf, a real stable sort, the TF-IDF model with the identity
    in place of the square root and a constant log table - its hypotheses are satisfiable and the search it speaks about
    returns something -/
section examples_modelled_end_to_end

local instance : ScoreOps ℚ := fieldScoreOps ℚ
local instance : ScoreLaws ℚ := fieldScoreLaws ℚ

private def dbE : Db := [Example.mk "ls -la" "list files" [], Example.mk "tar czf x" "compress directory" [],
  Example.mk "cat x | grep y" "search text" [] true]
private def idfE : Nat → Nat → ℚ := fun n df => if df ≤ n then ((n - df : Nat) + 1 : ℚ) / ((df : ℚ) + 1) else 0
private def sortE : List (Nat × Int) → List (Nat × Int) := fun ms => ms.mergeSort (fun a b => decide (a.2 ≥ b.2))
private def idxE : Tfidf.Index ℚ := Tfidf.build {} (fun _ _ => 1) (fun x => x) dbE
private def TE : Tuning ℚ := modelledTuning idfE (Filters.bs "linux") {} (fun q => q) sortE (fun x => x) (1 / 100) (some idxE) dbE

private theorem hidfE : ∀ n df, df ≤ n → ScoreOps.lt (idfE n df) (ScoreOps.zero : ℚ) = false := by
  intro n df h
  show decide (idfE n df < 0) = false
  simp only [idfE, h, ↓reduceIte, decide_eq_false_iff_not, not_lt]
  positivity

theorem hminE : Nonneg (1 / 100 : ℚ) := by show decide ((1 / 100 : ℚ) < 0) = false; simp

private theorem hsortE : ∀ ms, (sortE ms).Perm ms ∧ (sortE ms).Pairwise (fun a b => a.2 ≥ b.2) :=
  fuzzySortOK_mergeSort

example : ∀ q o r, search TE dbE q o = .ok r →
    r.length ≤ effLimit o ∧ (∀ x ∈ r, x.1 < dbE.length) ∧ (r.map (·.1)).Nodup ∧ (∀ x ∈ r, Nonneg x.2) :=
  fun q o r h =>
    let p := universal_modelled idfE (Filters.bs "linux") {} (fun q => q) sortE (fun x => x) (1 / 100) (some idxE) dbE hidfE hsortE
      hminE q o r h
    ⟨p.1, p.2.1, p.2.2.1, p.2.2.2.2⟩

end examples_modelled_end_to_end

end Wtf.C01
