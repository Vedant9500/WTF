import WtfModel.Proofs.Validate

/-!
  C14 — accepted queries are clean; validation is stable and decisive.

  Property theorems only (lemmas: Proofs/ValidateUtf8.lean, ValidateText.lean, Validate.lean).  `validate`
  and `validateLimit` are the models of `validation.ValidateQuery` / `ValidateLimit` in
  Model/Validate.lean.  All statements quantify over every byte string `q : Bytes = List UInt8`
  (well-formed UTF-8 or not) and every integer.

  Vocabulary: `decodeGo q` are the runes Go's `range` yields (an invalid byte is one rune, value U+FFFD);
  `chars q` their values; `runeCount` = `utf8.RuneCountInString`; `validUTF8` = `utf8.ValidString`;
  `encodeGo cs` is the Go string holding code points `cs`; `isSpace` / `isControl` = `unicode.IsSpace` /
  `unicode.IsControl` (tables compared with the toolchain over all code points on every run);
  `isShellMeta` is membership in the property's list `< > | & ; $`;
  `stripCtl` is the text after the control strip (U+000A and U+0009 are exempted by the code; a byte that
  is not valid UTF-8 is written as the one byte `Gen.Validate.invalidRepl` = `'?'`).

  History (finding K01, repaired): the strip used to be `strings.Map`, which wrote U+FFFD — three bytes — for
  every invalid byte; 334 × `FF` was accepted, came back 1002 bytes long and was rejected by a second
  validation.  `idem` and `clean_bytes` hold for every byte string; `idem_old_witness` keeps that input.
-/
namespace Wtf.C14
open Wtf.Validate

/-- What the theorems below need from the regenerated facts (`Gen.Constants`, `Gen.Validate`): the length
    limit is 1000, the largest limit 100, the default limit lies in 1..100, the rejected class is exactly
    the property's six metacharacters, every control character exempted from the strip is white space
    (so it cannot survive `Fields`), and the byte written for an invalid byte is a single ASCII byte that is
    neither white space, nor a control character, nor a metacharacter (like U+FFFD, the value Go gives an
    invalid byte, so that replacing does not change any test the function makes). -/
theorem gen_facts_ok :
    maxQueryLength = 1000 ∧ maxLimit = 100 ∧ 1 ≤ defaultLimit ∧ defaultLimit ≤ 100 ∧
    (∀ c, isMeta c = isShellMeta c) ∧
    Wtf.Gen.Validate.keptControls.all isSpace = true ∧
    (Wtf.Gen.Validate.invalidRepl < 0x80 ∧ isSpace Wtf.Gen.Validate.invalidRepl = false ∧
      isControl Wtf.Gen.Validate.invalidRepl = false ∧ isShellMeta Wtf.Gen.Validate.invalidRepl = false) :=
  ⟨maxQueryLength_eq, maxLimit_eq, by decide, by decide, isMeta_eq_shell, keptControls_space, by decide, by decide, by decide, by decide⟩

/-- A query is accepted exactly when it is at most 1000 bytes long, contains none of the metacharacter
    bytes, and the text left by the control strip is not blank. -/
theorem accept_iff (q : Bytes) :
    (∃ r, validate q = .ok r) ↔
      q.length ≤ 1000 ∧ (∀ b ∈ q, isShellMeta b.toNat = false) ∧
      (∃ c ∈ stripCtl (decodeGo q), isSpace c = false) := by
  rw [validate_isOk_iff, maxQueryLength_eq, ← meta_bytes_iff]
  simp only [isMeta_eq_shell]

/-- The same with *all* control characters removed (the code keeps newline and tab, which are white space
    and therefore irrelevant for blankness): some character is neither a control character nor white space.
    Characters are those of the *input* as Go decodes it (an invalid byte is the character U+FFFD). -/
theorem accept_iff_all_controls (q : Bytes) :
    (∃ r, validate q = .ok r) ↔
      q.length ≤ 1000 ∧ (∀ b ∈ q, isShellMeta b.toNat = false) ∧
      (∃ c ∈ chars q, isControl c = false ∧ isSpace c = false) := by
  rw [accept_iff]
  refine and_congr_right fun _ => and_congr_right fun _ => ?_
  constructor
  · rintro ⟨c, hc, hs⟩
    obtain ⟨hk, ru, hru, rfl⟩ := mem_stripCtl.mp hc
    rw [kept_out] at hk; rw [isSpace_out] at hs
    exact ⟨ru.val, List.mem_map.mpr ⟨ru, hru, rfl⟩, not_control_of_kept_nonspace hk hs, hs⟩
  · rintro ⟨c, hc, hctl, hs⟩
    obtain ⟨ru, hru, rfl⟩ := List.mem_map.mp hc
    rw [← isControl_out] at hctl; rw [← isSpace_out] at hs
    exact ⟨ru.out, mem_stripCtl.mpr ⟨kept_of_not_control hctl, ru, hru, rfl⟩, hs⟩

/-- An accepted query comes back as non-empty well-formed UTF-8 without control characters, without
    metacharacters (as characters and as bytes), with no white space other than single U+0020 between
    words (none at either end, no two adjacent), and with at most as many characters (runes, as Go counts
    them: an invalid byte is one character) as the input had. -/
theorem clean {q r : Bytes} (h : validate q = .ok r) :
    validUTF8 r ∧ r ≠ [] ∧
    (∀ c ∈ chars r, isControl c = false ∧ isShellMeta c = false ∧ (isSpace c = true → c = 0x20)) ∧
    (∀ b ∈ r, isShellMeta b.toNat = false) ∧
    noEdgeSpace (chars r) ∧ noAdjSpace (chars r) ∧
    runeCount r ≤ runeCount q := by
  obtain ⟨_, _, h3, h4, rfl⟩ := (validate_ok_iff q r).mp h
  have hc := clean_outOf h3 h4
  have hd : decodeGo (encodeGo (outOf (decodeGo q))) = (outOf (decodeGo q)).map .cp := decode_encode _ hc.scal
  have hch : chars (encodeGo (outOf (decodeGo q))) = outOf (decodeGo q) := chars_encodeGo hc.scal
  have hmeta : ∀ c ∈ outOf (decodeGo q), isMeta c = false := hc.noMeta
  simp only [← isMeta_eq_shell, hch]
  refine ⟨?_, ?_, fun c hc' => ⟨hc.noCtl c hc', hmeta c hc', hc.spaces c hc'⟩, ?_, hc.noEdge, hc.noAdj, ?_⟩
  · intro ru hru
    rw [hd] at hru
    obtain ⟨c, _, rfl⟩ := List.mem_map.mp hru
    rfl
  · intro he
    rw [he] at hch
    exact hc.ne_nil hch.symm
  · exact (meta_bytes_iff _).mpr fun ru hru => hmeta _ (hch ▸ List.mem_map_of_mem (f := Rune.val) hru)
  · unfold runeCount
    rw [hd, List.length_map]
    exact length_outOf_le _

/-- Bytes: the result is never longer than the input (in particular never longer than 1000 bytes).  "No more
    characters than it had" therefore holds for both readings of "character": runes (`clean`) and bytes. -/
theorem clean_bytes {q r : Bytes} (h : validate q = .ok r) : r.length ≤ q.length ∧ r.length ≤ 1000 := by
  obtain ⟨_, hl, _, _, rfl⟩ := (validate_ok_iff q r).mp h
  have := bytes_outOf_le q
  rw [maxQueryLength_eq] at hl
  exact ⟨this, by omega⟩

/-- What comes back, exactly: the characters of the input without the control characters (other than newline
    and tab), each invalid byte replaced by `'?'`, split at white space and joined with single spaces. -/
theorem result_chars {q r : Bytes} (h : validate q = .ok r) :
    chars r = joinSp (fields (stripCtl (decodeGo q))) ∧ r = encodeGo (chars r) := by
  obtain ⟨_, _, h3, h4, rfl⟩ := (validate_ok_iff q r).mp h
  rw [chars_encodeGo (clean_outOf h3 h4).scal]
  exact ⟨rfl, rfl⟩

/-- Validating an already validated query returns it unchanged — for every byte string. -/
theorem idem {q r : Bytes} (h : validate q = .ok r) : validate r = .ok r := by
  have hl := (clean_bytes h).2
  obtain ⟨_, _, h3, h4, rfl⟩ := (validate_ok_iff q r).mp h
  have hc := clean_outOf h3 h4
  rw [validate_clean hc, maxQueryLength_eq, if_neg (by omega)]

/-- Every accepted result is a fixed point, and the fixed points are exactly the accepted results. -/
theorem idem_iff (r : Bytes) : validate r = .ok r ↔ ∃ q, validate q = .ok r :=
  ⟨fun h => ⟨r, h⟩, fun ⟨_, h⟩ => idem h⟩

/-- The input that refuted idempotence before the repair of K01 — 334 bytes `FF`, then answered with
    334 × U+FFFD = 1002 bytes — is accepted, comes back as 334 bytes `'?'`, and that text is a fixed point.
    The same holds at the length limit (1000 invalid bytes).  The check runs the first input on the real
    code on every run (monitor class `idem-invalid-utf8-expansion`). -/
theorem idem_old_witness :
    validate idemWitness = .ok (List.replicate 334 0x3F) ∧
    validate (List.replicate 334 0x3F) = .ok (List.replicate 334 0x3F) ∧
    validate (List.replicate 1000 0xFF) = .ok (List.replicate 1000 0x3F) ∧
    validate (List.replicate 1000 0x3F) = .ok (List.replicate 1000 0x3F) := by
  have h1 := validate_replicate_FF 334 (by omega) (by rw [maxQueryLength_eq]; omega)
  have h2 := validate_replicate_FF 1000 (by omega) (by rw [maxQueryLength_eq]; omega)
  exact ⟨h1, idem h1, h2, idem h2⟩

/-- Leading and trailing white space (any of the 25 white-space characters, in any number) does not change
    the outcome, unless it pushes the raw byte length over the limit: stated without side conditions. -/
theorem pad_exact (s₁ s₂ : List Nat) (h₁ : ∀ c ∈ s₁, isSpace c = true) (h₂ : ∀ c ∈ s₂, isSpace c = true) (q : Bytes) :
    validate (encodeGo s₁ ++ q ++ encodeGo s₂) =
      if blank (decodeGo q) = true then .error .empty
      else if (encodeGo s₁ ++ q ++ encodeGo s₂).length > 1000 then .error .toolong
      else validate q := by
  obtain ⟨hs, hb⟩ := sanitize_pad s₁ s₂ h₁ h₂ (decodeGo q)
  rw [← decodeGo_pad s₁ s₂ h₁ h₂ q] at hs hb
  unfold validate
  simp only [hb, hs, maxQueryLength_eq]
  split
  · rfl
  · split
    · rfl
    · rename_i hl
      have : ¬ q.length > 1000 := by
        simp only [List.length_append] at hl; omega
      rw [if_neg this]

/-- Padding that keeps the query within the length limit does not change the result. -/
theorem pad (s₁ s₂ : List Nat) (h₁ : ∀ c ∈ s₁, isSpace c = true) (h₂ : ∀ c ∈ s₂, isSpace c = true) (q : Bytes)
    (hlen : (encodeGo s₁ ++ q ++ encodeGo s₂).length ≤ 1000) :
    validate (encodeGo s₁ ++ q ++ encodeGo s₂) = validate q := by
  rw [pad_exact s₁ s₂ h₁ h₂ q]
  split
  · rename_i hb
    unfold validate
    simp [hb]
  · rw [if_neg (by omega)]

/-- An inner run of white space that contains at least one character surviving the control strip (any
    white space other than VT, FF, CR, NEL in the current tree) acts like a single plain space.  (A run made
    only of white-space characters that the control strip removes joins its neighbours instead, see the
    examples at the end.) -/
theorem pad_inner (s : List Nat) (hs : ∀ c ∈ s, isSpace c = true) (hk : ∃ c ∈ s, kept c = true) (a b : Bytes)
    (hlen : (a ++ encodeGo s ++ b).length ≤ 1000) :
    validate (a ++ encodeGo s ++ b) = validate (a ++ [0x20] ++ b) := by
  have hne : s ≠ [] := by obtain ⟨c, hc, _⟩ := hk; exact List.ne_nil_of_mem hc
  obtain ⟨h1, h2⟩ := sanitize_inner s hs hk (decodeGo a) (decodeGo b)
  have d1 := decodeGo_inner s hs hne a b
  have d2 : decodeGo (a ++ [0x20] ++ b) = decodeGo a ++ [Rune.cp 0x20] ++ decodeGo b :=
    encodeGo_sp ▸ decodeGo_inner [0x20] (List.forall_mem_singleton.mpr isSpace_sp) (by simp) a b
  rw [← d1, ← d2] at h1 h2
  have hl1 : 0 < (encodeGo s).length := List.length_pos_iff.mpr fun e =>
    hne (by rw [← chars_encodeGo (cs := s) (fun c hc => space_scalar (hs c hc)), e]; rfl)
  have hl2 : ¬ (a ++ [0x20] ++ b).length > maxQueryLength := by
    rw [maxQueryLength_eq]; simp only [List.length_append, List.length_cons, List.length_nil] at *; omega
  have hl3 : ¬ (a ++ encodeGo s ++ b).length > maxQueryLength := by rw [maxQueryLength_eq]; omega
  unfold validate
  simp only [h1, h2, if_neg hl2, if_neg hl3]

/-- An accepted limit is between 1 and 100; 0 means the default; any other accepted value is returned
    as given. -/
theorem limit {n m : Int} (h : validateLimit n = .ok m) :
    1 ≤ m ∧ m ≤ 100 ∧ (n = 0 → m = defaultLimit) ∧ (n ≠ 0 → m = n) := by
  obtain ⟨h0, h1⟩ := (validateLimit_ok_iff n).mp ⟨m, h⟩
  have hd : 1 ≤ defaultLimit ∧ defaultLimit ≤ 100 := by decide
  rw [maxLimit_eq] at h1
  rcases Int.lt_or_eq_of_le h0 with h0 | rfl
  · rw [validateLimit_mid h0 (by rw [maxLimit_eq]; exact h1)] at h
    cases h; omega
  · cases h; exact ⟨hd.1, hd.2, fun _ => rfl, fun h => absurd rfl h⟩

/-- exactly the limits 0..100 are accepted; negative limits are answered with (0, error), limits above
    100 with (100, error) -/
theorem limit_accept_iff (n : Int) :
    ((∃ m, validateLimit n = .ok m) ↔ 0 ≤ n ∧ n ≤ 100) ∧
    (n < 0 → validateLimit n = .error 0) ∧ (100 < n → validateLimit n = .error 100) ∧
    validateLimit 0 = .ok defaultLimit := by
  have hok := validateLimit_ok_iff n
  have hbig : maxLimit < n → validateLimit n = .error maxLimit := validateLimit_big
  rw [maxLimit_eq] at hok hbig
  exact ⟨hok, validateLimit_neg, hbig, rfl⟩

-- acceptance, cleaning, trimming, collapsing: "  ls \t -la\n" ↦ "ls -la"
example : validate [0x20, 0x20, 0x6C, 0x73, 0x20, 0x09, 0x20, 0x2D, 0x6C, 0x61, 0x0A] = .ok [0x6C, 0x73, 0x20, 0x2D, 0x6C, 0x61] := by decide +kernel
-- control characters are removed, even when that joins words: "a\x00b\x7fc" ↦ "abc"
example : validate [0x61, 0x00, 0x62, 0x7F, 0x63] = .ok [0x61, 0x62, 0x63] := by decide +kernel
-- NBSP (C2 A0) and U+3000 (E3 80 80) are separators: ↦ "a b"
example : validate [0x61, 0xC2, 0xA0, 0xE3, 0x80, 0x80, 0x62] = .ok [0x61, 0x20, 0x62] := by decide +kernel
-- each rejection reason occurs; the metacharacter test sees through control characters ("a\x00|b")
example : validate [0x20, 0x09, 0x0A] = .error .empty := by decide +kernel
example : validate [0x00, 0x7F] = .error .empty := by decide +kernel
example : validate [0x61, 0x00, 0x7C, 0x62] = .error .badchars := by decide +kernel
example : ∃ q : Bytes, q.length = 1001 ∧ validate q = .error .toolong :=
  ⟨List.replicate 1001 0x61, List.length_replicate,
    validate_error_toolong (not_blank_cons (b := 0x61) (by decide) (by decide) _)
      (by rw [List.length_replicate, maxQueryLength_eq]; decide)⟩
-- invalid bytes are accepted and become '?' (one byte each); an overlong "space" C0 A0 is two invalid bytes, not
-- a space; a genuine U+FFFD (EF BF BD) is left alone
example : validate [0x61, 0xFF] = .ok [0x61, 0x3F] := by decide +kernel
example : validate [0xC0, 0xA0] = .ok [0x3F, 0x3F] := by decide +kernel
example : validate [0xEF, 0xBF, 0xBD, 0xFF] = .ok [0xEF, 0xBF, 0xBD, 0x3F] := by decide +kernel
-- why the invalid byte is not simply copied: the bytes around a removed control character must not join.
-- "a" C2 01 80 "b" (C2 and 80 invalid on their own, C2 80 = U+0080 is a control character) ↦ "a??b", a fixed point;
-- C2 01 A0 (C2 A0 = U+00A0 is white space) is accepted, as the property demands (U+FFFD U+FFFD is not blank) ↦ "??"
example : validate [0x61, 0xC2, 0x01, 0x80, 0x62] = .ok [0x61, 0x3F, 0x3F, 0x62] := by decide +kernel
example : validate [0x61, 0x3F, 0x3F, 0x62] = .ok [0x61, 0x3F, 0x3F, 0x62] := by decide +kernel
example : validate [0xC2, 0x01, 0xA0] = .ok [0x3F, 0x3F] := by decide +kernel
example : validate [0x61, 0xE2, 0x01, 0x80, 0x01, 0xA8, 0x62] = .ok [0x61, 0x3F, 0x3F, 0x3F, 0x62] := by decide +kernel
-- invalid bytes alone are not blank, with white space and controls around them: " \x00\xff\t" ↦ "?"
example : validate [0x20, 0x00, 0xFF, 0x09] = .ok [0x3F] := by decide +kernel
-- the hypotheses of pad / pad_inner are satisfiable and the conclusions are not trivial
example : validate (encodeGo [0x3000, 0x0D] ++ [0x6C, 0x73] ++ encodeGo [0x85, 0x20]) = .ok [0x6C, 0x73] := by decide +kernel
example : validate ([0x61] ++ encodeGo [0x0D, 0x2028] ++ [0x62]) = .ok [0x61, 0x20, 0x62] := by decide +kernel
-- ... and the side condition of pad_inner is needed: a white-space character that the control strip removes
-- joins its neighbours (with the exemption list [\n, \t] of the current tree "a\rb" ↦ "ab"); stated for any such character:
example (c : Nat) (hs : isSpace c = true) (hk : kept c = false) :
    stripCtl (decodeGo ([0x61] ++ encodeGo [c] ++ [0x62])) = [0x61, 0x62] := by
  rw [decodeGo_inner [c] (List.forall_mem_singleton.mpr hs) (by simp)]
  have k1 : kept 0x61 = true := by decide
  have k2 : kept 0x62 = true := by decide
  show stripCtl [.cp 0x61, .cp c, .cp 0x62] = _
  simp [stripCtl, stripStep, hk, k1, k2]
-- idempotence: "ls -la" is a fixed point; so is the result of an input with invalid bytes and controls
example : validate [0x6C, 0x73, 0x20, 0x2D, 0x6C, 0x61] = .ok [0x6C, 0x73, 0x20, 0x2D, 0x6C, 0x61] := by decide +kernel
example : validate [0x3F] = .ok [0x3F] := by decide +kernel
-- limits
example : validateLimit 0 = .ok defaultLimit ∧ validateLimit 1 = .ok 1 ∧ validateLimit 100 = .ok 100 ∧
    validateLimit 101 = .error 100 ∧ validateLimit (-1) = .error 0 := by decide

end Wtf.C14
