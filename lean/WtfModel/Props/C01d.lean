import WtfModel.Gen.Bm25F
import WtfModel.Proofs.C01Idf
/-
  C01 — the `idf ≥ 0` hypothesis of the ranking theorems, for the formula that is in the source.

  `Gen.Bm25F.idfArg` is the argument of `math.Log` in `bm25IDF`, translated from the source on every run (xlate/x_bm25f.go).
  It is shown ≥ 1 over the reals in the region the index asks for (`df ≤ N`), hence its logarithm is ≥ 0.  `math.Log` itself is
  a parameter of the model (its real values are fed to the driver and monitored): dropping the `+ 1` of the formula, or
  swapping `N − df` for `df − N`, breaks this file; re-tuning the ½ to another positive constant does not.
-/
namespace Wtf.C01

/-- `bm25IDF` over the reals, with the argument of the logarithm as written in the source -/
noncomputable def sourceIdf (n df : Nat) : ℝ :=
  Real.log (@Gen.Bm25F.idfArg ℝ (fieldScoreOps ℝ) (n : ℝ) (df : ℝ))

/-- the argument of `math.Log` in the source is at least 1 whenever `df ≤ N` … -/
theorem idf_source_arg_ge_one (n df : Nat) (h : df ≤ n) :
    1 ≤ @Gen.Bm25F.idfArg ℝ (fieldScoreOps ℝ) (n : ℝ) (df : ℝ) := by
  unfold Gen.Bm25F.idfArg
  simp only [ScoreOps.add, ScoreOps.sub, ScoreOps.div, ScoreOps.one, ScoreOps.ofQ]
  have h1 : (0 : ℝ) ≤ (n : ℝ) - (df : ℝ) := sub_nonneg.mpr (Nat.cast_le.mpr h)
  have h0 : (0 : ℝ) ≤ (df : ℝ) := Nat.cast_nonneg df
  -- shape: 1 ≤ <quotient> + 1 with a quotient of two sums that are ≥ 0 (whatever the positive constants are)
  apply le_add_of_nonneg_left
  apply div_nonneg
  · exact add_nonneg h1 (by norm_num)
  · exact add_nonneg h0 (by norm_num)

/-- … so the idf of the source formula is never negative there (the `idf` field of `TuningWF`) -/
theorem idf_source_nonneg (n df : Nat) (h : df ≤ n) : 0 ≤ sourceIdf n df :=
  Real.log_nonneg (idf_source_arg_ge_one n df h)

/-- the model's idf hypothesis is met by the source formula over the reals, whatever the other parameters are -/
theorem idfNonneg_source (T : @Search.Tuning ℝ) (h : T.idf = sourceIdf) : @Search.IdfNonneg ℝ (fieldScoreOps ℝ) T :=
  Search.idfNonneg_of_nonneg _ idf_source_nonneg T h

/-- reading check that does not pin the constants: among 10 documents a term found in none of the others weighs more than
    one found in all of them -/
example : @Gen.Bm25F.idfArg ℝ (fieldScoreOps ℝ) (10 : ℝ) (10 : ℝ) < @Gen.Bm25F.idfArg ℝ (fieldScoreOps ℝ) (10 : ℝ) (0 : ℝ) := by
  unfold Gen.Bm25F.idfArg
  simp only [ScoreOps.add, ScoreOps.sub, ScoreOps.div, ScoreOps.one, ScoreOps.ofQ]
  norm_num

end Wtf.C01
