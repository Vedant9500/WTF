import WtfModel.Props.C07c

/-!
  C02, continued — "commands whose scores tie are ordered by a fixed rule, never by chance", for the typo fallback.

  The fallback's order is that of `fuzzy.Find`, which sorts with `sort.Stable` and a `Less` that is not a strict order
  (`Score >=`): the documented contract of `sort.Stable` then says nothing about ties.  With the algorithm modelled
  (`Model/GoSort.lean`) the rule can be stated and proved: best library score first, equal library scores in reverse
  database order — and that order is the ONLY permutation of the matches with this property, so nothing else (block size,
  merge strategy, toolchain version, the run) can influence which tied command survives the limit.
  `Props/C02.lean` keeps the weaker statement (`search_function`: the model has no schedule argument).
-/
namespace Wtf.C02
open Wtf.Search

/-- **the fallback orders ties by a fixed rule**: the answer of a search that was answered by the typo fallback is the
    normalised image of (command index, library score) pairs listed by score, best first, and within a score by
    index, highest first -/
theorem fallback_ties_fixed_rule {S : Type} [ScoreOps S] (T : Tuning S) (hs : T.fuzzySort = GoSort.fuzzyStable) (db : Db)
    (q : Bytes) (o : Opts S) (r : List (Nat × S))
    (hoff : search T db q { o with useFuzzy := false } = .ok [])
    (hon : search T db q { o with useFuzzy := true } = .ok r) :
    ∃ ms : List (Nat × Int), r = ms.map (fun m => (m.1, normalizeFuzzy m.2)) ∧
      ms.Pairwise (fun a b => a.2 > b.2 ∨ (a.2 = b.2 ∧ a.1 > b.1)) :=
  Wtf.C07.fallback_tie_order T hs db q o r hoff hon

/-- **the library's sort is determined by its input**: on matches in index order it returns the unique permutation
    ordered by (score descending, index descending) -/
theorem fuzzy_order_unique (ms : List (Nat × Int)) (h : (ms.map (·.1)).Pairwise (· < ·)) (l : List (Nat × Int))
    (hp : l.Perm ms) (hl : l.Pairwise (fun a b => a.2 > b.2 ∨ (a.2 = b.2 ∧ a.1 > b.1))) : l = GoSort.fuzzyStable ms :=
  GoSort.fuzzyStable_unique ms h l hp hl

/-- non-vacuity: three matches with one score come out last index first -/
example : GoSort.fuzzyStable [(0, -3), (4, -3), (7, -3), (9, 2)] = [(9, 2), (7, -3), (4, -3), (0, -3)] := by decide +kernel

end Wtf.C02
