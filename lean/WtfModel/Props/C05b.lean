import WtfModel.Props.C05
import WtfModel.Proofs.KeyJson
import WtfModel.Proofs.KeyJsonNorm
import WtfModel.Gen.KeyJson

/-!
  C05, continued: the hypothesis "`E.enc` is injective" of Props/C05.lean, reduced.

  The real key string is  keyPrefix ++ hex (SHA-256 text)  where `text` is json.Marshal of the key struct or, when that
  fails (NaN / ±Inf), its `%#v` text.  Here `E.enc = hash ∘ keyText`, with
    `hash`      an arbitrary function Bytes → κ                          ASSUMED injective (SHA-256 collision-freedom)   (a)
    `keyText`   Model/KeyJson.lean: the JSON text, modelled byte for byte (json names, order, omitempty and kinds
                regenerated from the source; validated against the real json.Marshal by the `keyjson` correspondence),
                with the float formatter as a parameter `fmt`             ASSUMED `FloatFmtOK fmt`                          (b)
                (number alphabet; injective on finite 64-bit patterns);
                the `%#v` text is a parameter `goText`                     ASSUMED `GoTextOK goText` -- needed only by the  (c)
                theorems that admit NaN / ±Inf options (`*_keyed`), not by the `*_keyed_finite` ones.
  PROVED: the JSON text determines the key view (`key_text_injective`), so `hash ∘ keyText` separates the key pre-images of
  all well-typed requests (`enc_separates`); the theorems of Props/C05.lean that took `Injective E.enc` follow
  (`transparent_keyed`, `no_sharing_keyed`, and their `_finite` forms).

  Two facts that were hidden in "`enc` injective on `KeyData`" surface as explicit hypotheses:
    `NormValid E`    the normalised query is valid UTF-8 (encoding/json would write \ufffd for an invalid byte whichever it
                     was).  True of strings.ToLower: PROVED for the model's normaliser `Wtf.NormQ.normQ` over every table of
                     Unicode facts (`norm_valid_model`); monitored on the real one (class norm-query-invalid-utf8).
    `WellTyped o`    the request is a well-typed Go value: each option field holds a value of the kind of its Go type, float
                     patterns are 64-bit (the model's `Opts` are untyped; the text of the int 5 and of the float 5.0 is `5`).
  Unchanged: `EngineReadsOnly`, `EngineNormalises` (see Props/C05.lean).
-/
namespace Wtf.C05
open Wtf.CacheLayer Wtf.KeyJson

variable {Db Ans κ : Type} [DecidableEq κ]

/-- the bytes generateCacheKey hashes for a key pre-image -/
def keyTextOf (fmt : Nat → Bytes) (goText : Query → List (String × Val) → Bytes) : KeyData → Bytes :=
  keyText fmt goText Gen.KeyJson.queryName Gen.KeyJson.optionsName

/-- `E` builds its keys as the code does: pass 1 of the string encoder on every option string, and
    key = hash (text of the key struct). -/
structure KeyedAsCode (E : Env Db Ans κ) (hash : Bytes → κ) (fmt : Nat → Bytes)
    (goText : Query → List (String × Val) → Bytes) : Prop where
  utf8 : E.utf8 = coerce
  enc : ∀ kd, E.enc kd = hash (keyTextOf fmt goText kd)

/-- The request is a well-typed Go value of type database.SearchOptions. -/
def WellTyped (o : Opts) : Prop :=
  ∀ f ty, (f, ty) ∈ Gen.CacheKey.optionFields → kindOfGo ty = some (kindOf (o f)) ∧ bitsOK (o f) = true

/-- every search of the history is about a well-typed request -/
def HistTyped (hist : List (Op Db)) : Prop := ∀ op ∈ hist, OpOn WellTyped op

/-- ... and about one json.Marshal accepts -/
def HistFinite (hist : List (Op Db)) : Prop := ∀ op ∈ hist, OpOn (fun o => WellTyped o ∧ FiniteOpts o) op

/-- a conversion literal copies like-typed fields, and every key field has a modelled kind -/
def siteTyped (sh : Shape) : Bool :=
  sh.keyFields.all (fun kf => (kindOfGo kf.2.1).isSome &&
    match sh.site.lookup kf.1 with
    | some f => Gen.CacheKey.optionFields.contains (f, kf.2.1)
    | none => true)

/-- The json names of the key struct and of cache.SearchOptions are pairwise distinct byte strings without `"`;
    every key field has one of the six modelled kinds and receives a like-typed option field, at both conversion sites.
    (regenerated facts; fails to build when a json name is reused or a field changes its type) -/
theorem key_names_ok :
    NamesOK (jsonNames shC) ∧ NamesOK [Gen.KeyJson.queryName, Gen.KeyJson.optionsName] ∧
    Gen.KeyJson.keyStruct.map (·.2.1) = ["string", "SearchOptions"] ∧
    Gen.KeyJson.keyStruct.map (·.2.2.2) = [false, false] ∧
    siteTyped shC = true ∧ siteTyped shM = true := by
  -- one evaluation: the conjuncts share the field table and the bytes of the names
  unfold NamesOK
  decide +kernel

private theorem typed_of_site {sh : Shape} (hs : siteTyped sh = true) {o : Opts} (h : WellTyped o) : Typed sh o := by
  intro kf hkf
  unfold siteTyped at hs
  rw [List.all_eq_true] at hs
  have := hs kf hkf
  rw [Bool.and_eq_true] at this
  obtain ⟨h1, h2⟩ := this
  unfold fieldVal
  split at h2
  · rename_i f hf
    rw [hf]
    exact h f kf.2.1 (by simpa using h2)
  · rename_i hf
    rw [hf]
    exact zeroOf_typed h1

theorem typed_both {o : Opts} (h : WellTyped o) : Typed shC o ∧ Typed shM o :=
  ⟨typed_of_site key_names_ok.2.2.2.2.1 h, typed_of_site key_names_ok.2.2.2.2.2 h⟩

/-- THE JSON TEXT IS INJECTIVE ON THE KEY VIEW.  For well-typed requests that json.Marshal accepts: if the views
    (query after pass 1 of the string encoder, `proj` of the options -- for any coercion `utf8`, in particular `coerce`)
    differ, the texts differ.  Only assumption: `FloatFmtOK fmt`. -/
theorem key_text_injective {fmt : Nat → Bytes} (hf : FloatFmtOK fmt) (utf8 : Bytes → Bytes)
    (q q' : Query) (o o' : Opts) (ht : WellTyped o) (ht' : WellTyped o') (hm : FiniteOpts o) (hm' : FiniteOpts o')
    (hdiff : coerce q ≠ coerce q' ∨ proj utf8 shC o ≠ proj utf8 shC o') :
    jsonText fmt Gen.KeyJson.queryName Gen.KeyJson.optionsName q (proj utf8 shC o) ≠
    jsonText fmt Gen.KeyJson.queryName Gen.KeyJson.optionsName q' (proj utf8 shC o') := by
  intro h
  obtain ⟨e1, e2⟩ := jsonText_proj_inj hf utf8 key_names_ok.1 _ _ (typed_both ht).1 (typed_both ht').1
    (finite_marshalOK o hm).1 (finite_marshalOK o' hm').1 h
  cases hdiff with
  | inl hd => exact hd e1
  | inr hd => exact hd e2

/-- A `%#v` text is never a JSON text (the first begins with `s`, the second with `{`): the two key families are
    disjoint before hashing. -/
theorem key_families_disjoint {goText : Query → List (String × Val) → Bytes} (hg : GoTextOK goText) (fmt : Nat → Bytes)
    (q q' : Query) (ko : KeyOpts) (vals : List (String × Val)) :
    keyTextOf fmt goText (.hashed q ko) ≠ keyTextOf fmt goText (.goSyntax q' vals) :=
  families_disjoint hg fmt _ _ q q' ko vals

omit [DecidableEq κ] in
/-- `enc_separates`, for one conversion site -/
theorem enc_separates_at {E : Env Db Ans κ} {hash : Bytes → κ} {fmt : Nat → Bytes}
    {goText : Query → List (String × Val) → Bytes} (hk : KeyedAsCode E hash fmt goText)
    (hh : ∀ a b, hash a = hash b → a = b) (hf : FloatFmtOK fmt) (hg : GoTextOK goText) (hv : NormValid E)
    {sh : Shape} (hn : NamesOK (jsonNames sh)) (hs : ∀ o, WellTyped o → Typed sh o) : InjOn E sh WellTyped := by
  intro q o q' o' ht ht' h
  rw [hk.enc, hk.enc] at h
  exact keyText_keyOf_inj hf hg E hv hn _ _ (hs o ht) (hs o' ht') (hh _ _ h)

omit [DecidableEq κ] in
/-- `hash ∘ keyText` separates the key pre-images of well-typed requests, at either conversion site. -/
theorem enc_separates {E : Env Db Ans κ} {hash : Bytes → κ} {fmt : Nat → Bytes}
    {goText : Query → List (String × Val) → Bytes} (hk : KeyedAsCode E hash fmt goText)
    (hh : ∀ a b, hash a = hash b → a = b) (hf : FloatFmtOK fmt) (hg : GoTextOK goText) (hv : NormValid E) :
    InjOn E shC WellTyped ∧ InjOn E shM WellTyped :=
  ⟨enc_separates_at hk hh hf hg hv key_names_ok.1 (fun _ h => (typed_both h).1),
   enc_separates_at hk hh hf hg hv key_names_ok.1 (fun _ h => (typed_both h).2)⟩

omit [DecidableEq κ] in
/-- ... and without any assumption on the `%#v` text when json.Marshal accepts the requests. -/
theorem enc_separates_finite {E : Env Db Ans κ} {hash : Bytes → κ} {fmt : Nat → Bytes}
    {goText : Query → List (String × Val) → Bytes} (hk : KeyedAsCode E hash fmt goText)
    (hh : ∀ a b, hash a = hash b → a = b) (hf : FloatFmtOK fmt) (hv : NormValid E) :
    InjOn E shC (fun o => WellTyped o ∧ FiniteOpts o) := by
  intro q o q' o' ht ht' h
  rw [hk.enc, hk.enc] at h
  exact keyText_keyOf_inj_json hf goText E hv key_names_ok.1 _ _ (typed_both ht.1).1 (typed_both ht'.1).1
    (finite_marshalOK o ht.2).1 (finite_marshalOK o' ht'.2).1 (hh _ _ h)

omit [DecidableEq κ] in
/-- `NormValid` holds whenever the environment normalises with the model of strings.ToLower ∘ strings.TrimSpace
    (Model/NormQ.lean, property C20), for every table of Unicode facts: ToLower copies ASCII-only strings bytewise and
    rebuilds any other string from utf8.AppendRune outputs, which utf8.DecodeRune accepts. -/
theorem norm_valid_model (E : Env Db Ans κ) (ri : RuneInfo) (h : E.normQ = NormQ.normQ ri) : NormValid E := by
  intro q
  rw [h]
  exact coerce_normQ ri q

/-- `transparent` (Props/C05.lean) with the key function spelled out: in any history of well-typed requests -- NaN and
    ±Inf included -- every search output is the engine's answer on the database in force.
    Hypotheses: (a) `hash` injective, (b) `FloatFmtOK fmt`, (c) `GoTextOK goText`, `NormValid`, the two engine hypotheses. -/
theorem transparent_keyed (E : Env Db Ans κ) {hash : Bytes → κ} {fmt : Nat → Bytes}
    {goText : Query → List (String × Val) → Bytes} (hk : KeyedAsCode E hash fmt goText)
    (hh : ∀ a b, hash a = hash b → a = b) (hf : FloatFmtOK fmt) (hg : GoTextOK goText) (hv : NormValid E)
    (hr : EngineReadsOnly E reads) (hn : EngineNormalises E)
    (db0 : Db) (hist : List (Op Db)) (ht : HistTyped hist) (i : Nat) (q : Query) (o : Opts)
    (hop : hist[i]? = some (.search q o) ∨ hist[i]? = some (.monitoredSearch q o)) :
    (run E shC shM (init0 db0 : State κ Db Ans) hist).2[i]? =
      some (.ans (E.answer (dbAfter db0 (hist.take i)) q o)) :=
  run_specOn (enc_separates hk hh hf hg hv).1 coversC hr hn (init_invOn _ E shC _ _ _ db0) hist ht i q o hop

/-- The same for histories whose requests json.Marshal accepts (no NaN / ±Inf), with NO assumption about the `%#v` text:
    hypotheses (a) `hash` injective, (b) `FloatFmtOK fmt`, `NormValid`, the two engine hypotheses. -/
theorem transparent_keyed_finite (E : Env Db Ans κ) {hash : Bytes → κ} {fmt : Nat → Bytes}
    {goText : Query → List (String × Val) → Bytes} (hk : KeyedAsCode E hash fmt goText)
    (hh : ∀ a b, hash a = hash b → a = b) (hf : FloatFmtOK fmt) (hv : NormValid E)
    (hr : EngineReadsOnly E reads) (hn : EngineNormalises E)
    (db0 : Db) (hist : List (Op Db)) (ht : HistFinite hist) (i : Nat) (q : Query) (o : Opts)
    (hop : hist[i]? = some (.search q o) ∨ hist[i]? = some (.monitoredSearch q o)) :
    (run E shC shM (init0 db0 : State κ Db Ans) hist).2[i]? =
      some (.ans (E.answer (dbAfter db0 (hist.take i)) q o)) :=
  run_specOn (enc_separates_finite hk hh hf hv) coversC hr hn (init_invOn _ E shC _ _ _ db0) hist ht i q o hop

/-- `no_sharing` with the key function spelled out: well-typed requests with different answers (on any database) have
    different real key strings. -/
theorem no_sharing_keyed (E : Env Db Ans κ) {hash : Bytes → κ} {fmt : Nat → Bytes}
    {goText : Query → List (String × Val) → Bytes} (hk : KeyedAsCode E hash fmt goText)
    (hh : ∀ a b, hash a = hash b → a = b) (hf : FloatFmtOK fmt) (hg : GoTextOK goText) (hv : NormValid E)
    (hr : EngineReadsOnly E reads) (hn : EngineNormalises E)
    (db : Db) (q q' : Query) (o o' : Opts) (ht : WellTyped o) (ht' : WellTyped o')
    (hdiff : E.answer db q o ≠ E.answer db q' o') :
    hash (keyTextOf fmt goText (keyOf E shC q o)) ≠ hash (keyTextOf fmt goText (keyOf E shC q' o')) := by
  intro h
  rw [← hk.enc, ← hk.enc] at h
  exact hdiff (key_sound coversC hr hn ((enc_separates hk hh hf hg hv).1 _ _ _ _ ht ht' h) db)

theorem no_sharing_keyed_finite (E : Env Db Ans κ) {hash : Bytes → κ} {fmt : Nat → Bytes}
    {goText : Query → List (String × Val) → Bytes} (hk : KeyedAsCode E hash fmt goText)
    (hh : ∀ a b, hash a = hash b → a = b) (hf : FloatFmtOK fmt) (hv : NormValid E)
    (hr : EngineReadsOnly E reads) (hn : EngineNormalises E)
    (db : Db) (q q' : Query) (o o' : Opts) (ht : WellTyped o) (ht' : WellTyped o') (hm : FiniteOpts o) (hm' : FiniteOpts o')
    (hdiff : E.answer db q o ≠ E.answer db q' o') :
    hash (keyTextOf fmt goText (keyOf E shC q o)) ≠ hash (keyTextOf fmt goText (keyOf E shC q' o')) := by
  intro h
  rw [← hk.enc, ← hk.enc] at h
  exact hdiff (key_sound coversC hr hn (enc_separates_finite hk hh hf hv _ _ _ _ ⟨ht, hm⟩ ⟨ht', hm'⟩ h) db)

/-! ### Non-vacuity -/

/-- `FloatFmtOK` is satisfiable (decimal digits of the bit pattern) -/
example : FloatFmtOK natDigits :=
  ⟨fun b _ _ => natDigits_numChar b, fun _ _ _ _ _ _ h => natDigits_inj h⟩

/-- the zero record is a well-typed request that json.Marshal accepts (whatever the regenerated field list is) -/
example : WellTyped (zeroOpts Gen.CacheKey.optionFields) ∧ FiniteOpts (zeroOpts Gen.CacheKey.optionFields) := by
  constructor
  · have h : ∀ p ∈ Gen.CacheKey.optionFields, kindOfGo p.2 = some (kindOf (zeroOpts Gen.CacheKey.optionFields p.1)) ∧
        bitsOK (zeroOpts Gen.CacheKey.optionFields p.1) = true := by decide +kernel
    exact fun f ty hm => h (f, ty) hm
  · intro f
    unfold zeroOpts
    split
    · exact zeroOf_marshalOK _
    · rfl

/-- the model on a literal field table (independent of the source): the text of
    ("a<", {Limit: 5, UseFuzzy: true, Platforms: nil, Boosts: nil}) is
    {"query":"a\u003c","options":{"limit":5,"use_fuzzy":true,"boosts":null}} -/
example :
    let sh : Shape := ⟨[("Limit", "int", "limit", false), ("UseFuzzy", "bool", "use_fuzzy", true),
        ("Platforms", "[]string", "platforms", true), ("Boosts", "map[string]float64", "boosts", false)],
      [("Limit", "Limit"), ("UseFuzzy", "UseFuzzy"), ("Platforms", "Platforms"), ("Boosts", "Boosts")]⟩
    let o : Opts := fun f => if f == "Limit" then .int 5 else if f == "UseFuzzy" then .bool true
      else if f == "Platforms" then .strs none else .boosts none
    jsonText natDigits "query" "options" [0x61, 0x3C] (proj coerce sh o) =
      lit "{\"query\":\"a\\u003c\",\"options\":{\"limit\":5,\"use_fuzzy\":true,\"boosts\":null}}" := by
  intro sh o
  -- the quoted query by unfolding (`quoteBody` is compiled by well-founded recursion and does not evaluate), the rest by
  -- evaluation
  have hq : goString [0x61, 0x3C] = lit "\"a\\u003c\"" := by
    simp [goString, coerce, coerceAux, Utf8.decodeRune, Utf8.runeError, quote, quoteBody, escByte, hexDigit, lit]
  simp only [jsonText, hq]
  decide +kernel

end Wtf.C05
