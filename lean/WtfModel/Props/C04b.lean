import WtfModel.Props.C04
import WtfModel.Proofs.LegacyGate

/-!
  C04, continued — the legacy entry points with their own gates, on the correspondence-validated models of
  Model/LegacyEntry.lean (domain `legacy2`):

  * `legacy_pipeline_modelled` — SearchWithPipelineOptions (`wtf pipeline`): in a pipeline-only search every
    result is a pipeline command.  (The base module proves this on a local transliteration of the loop;
    here it is the model that is compared bit for bit with the real function, scorer included.)
  * `search_with_options_platform` — SearchWithOptions has a platform gate of its own, `(db).calculateCommandScore`:
    a command that declares platforms is scored only if one of them is the 'cross-platform' tag or the host,
    or if it is a recognised cross-platform tool.  Every result therefore satisfies the property's clause
    `Allowed` for the HOST with no platform request (`hostOnly`).
  * `search_with_fuzzy_platform` — SearchWithFuzzy: each result comes from the exact half (host gate as
    above) or from the typo half, which applies `passesFilters` with the caller's options.

  Not claimed (out of the property's scope: these exported functions are called by nothing outside
  search.go, and the lead's decision is to document rather than repair): SearchWithOptions and the exact half
  of SearchWithFuzzy never read `Platforms`, `NoCrossPlatform`, `AllPlatforms` or `PipelineOnly`; a request
  `{Platforms: [windows], NoCrossPlatform: true}` on a linux host still returns linux-only entries.  The
  harness counts such answers under `out-of-scope:<entry>-ignores-filter-options`.
-/
namespace Wtf.C04
open Wtf.Filters Wtf.Search Wtf.LegacyEntry ScoreOps

variable {S : Type} [ScoreOps S]

/-- the switches SearchWithOptions implements are those of a default request -/
theorem hostOnly_is_default : hostOnly = ({ limit := 0, pipelineBoost := (zero : S) } : Opts S).filter := rfl

/-- Pipeline clause for the modelled SearchWithPipelineOptions (scorer included). -/
theorem legacy_pipeline_modelled (fin : S → S) (ri : RuneInfo) (db : Db) (q : Bytes) (o : Opts S) (hp : o.pipelineOnly = true) :
    ∀ x ∈ searchPipeline fin ri db q o, ∃ c, db[x.1]? = some c ∧ isPipeline ri c = true := by
  intro x hx
  obtain ⟨c, hc, hf⟩ := mem_scanWith (mem_of_mem_take_sortDesc hx)
  exact ⟨c, hc, (pipelineScore_some hf).2 hp⟩

/-- what the loop of (db).calculateCommandScore accepts is what the property allows on the host when no platform
    is requested -/
theorem allowed_of_admitted (ri : RuneInfo) (host : Bytes) (c : Cmd)
    (h : c.platform.isEmpty = true ∨ hostDeclared ri host c = true ∨ crossTool ri c.command = true) :
    Allowed ri host hostOnly c := by
  rcases h with h | h | h
  · exact .inr (.inl (List.isEmpty_iff.mp h))
  · -- some tag is the cross tag or folds to the host
    obtain ⟨p, hp, hpp⟩ := List.any_eq_true.mp h
    cases hct : isCrossTag ri p with
    | true => exact .inr (.inr (.inr ⟨rfl, .inl ⟨p, hp, hct⟩⟩))
    | false =>
      have hf : GoStr.equalFold ri p host = true := by simpa [hct] using hpp
      exact .inr (.inr (.inl ⟨p, hp, hct, by simp [declares, inForce, hostOnly, hf]⟩))
  · exact .inr (.inr (.inr ⟨rfl, .inr h⟩))
/-- Platform clause for SearchWithOptions: every result is a command of the database that the property
    allows on the host when no platform is requested. -/
theorem search_with_options_platform (fin : S → S) (ri : RuneInfo) (host : Bytes) (db : Db) (q : Bytes) (limit : Int)
    (boosts : List (Bytes × S)) :
    ∀ x ∈ searchWithOptions fin ri host db q limit boosts, ∃ c, db[x.1]? = some c ∧ Allowed ri host hostOnly c := by
  intro x hx
  obtain ⟨c, hc, hf⟩ := mem_scanWith (mem_of_mem_take_sortDesc hx)
  exact ⟨c, hc, allowed_of_admitted ri host c (platformScore_some hf).2⟩

/-- SearchWithFuzzy: every result is allowed on the host (exact half) or allowed under — and, in pipeline-only
    requests, a pipeline command as demanded by — the caller's options (typo half). -/
theorem search_with_fuzzy_platform (fin : S → S) (T : Tuning S) (db : Db) (q : Bytes) (o : Opts S) (r : List (Nat × S))
    (h : searchWithFuzzy fin T db q o = .ok r) :
    ∀ x ∈ r, ∃ c, db[x.1]? = some c ∧
      (Allowed T.ri T.host hostOnly c ∨
       (Allowed T.ri T.host o.filter c ∧ (o.pipelineOnly = true → isPipeline T.ri c = true))) := by
  have hex : ∀ x ∈ searchWithOptions fin T.ri T.host db q (exactLimit (fuzzyLimit o.limit)) o.boosts,
      ∃ c, db[x.1]? = some c ∧ Allowed T.ri T.host hostOnly c :=
    search_with_options_platform fin T.ri T.host db q _ o.boosts
  rcases searchWithFuzzy_ok h with rfl | ⟨fz, hfz, rfl⟩
  · intro x hx
    obtain ⟨c, hc, ha⟩ := hex x (List.mem_of_mem_take hx)
    exact ⟨c, hc, .inl ha⟩
  · intro x hx
    have hx' : x ∈ combinedList db _ fz := mem_of_mem_take_sortDesc hx
    rw [combinedList_eq, List.mem_append] at hx'
    cases hx' with
    | inl hx' =>
      obtain ⟨c, hc, ha⟩ := hex x ((exactPart_sublist db _).subset hx')
      exact ⟨c, hc, .inl ha⟩
    | inr hx' =>
      obtain ⟨y, hy, rfl⟩ := typoPart_sub hx'
      obtain ⟨c, hc, hp⟩ := performFuzzy_eligible hfz y hy
      exact ⟨c, hc, .inr ((passes_iff _ _ _ _).mp hp)⟩

end Wtf.C04
