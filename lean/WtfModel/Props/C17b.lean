import WtfModel.Props.C17
import WtfModel.Proofs.JsonText

/-!
  C17, continued: the clause "with --format json the result block is a WELL-FORMED JSON array with one object per result".

  Props/C17.lean (`json_shape`) says which members each object has and that the block is `encodeItems w.F items`, with
  encoding/json's string and number encoders as parameters (`w.F.jsonStr`, `w.F.jsonNum`).  Here the string encoder is not
  a parameter: `hstr : w.F.jsonStr = jsonStrModel` fixes it to the model of encoding/json's `appendString` with
  EscapeHTML on (Model/KeyJson.lean, shared with the cache key of C05), and the block is shown to be a JSON text for the
  recogniser of Model/JsonText.lean (RFC 8259; stricter than the RFC only in rejecting `\uD800`..`\uDFFF` escapes, which the
  encoder never writes).

  PROVED, for every database text (any bytes: quotes, backslashes, controls, `<>&`, U+2028/9, invalid UTF-8, any rune):
    `json_wellformed`   the printed block parses, completely, to ONE array; the array has one object per printed result, in
                        printed order; object k is exactly: the member names of `json_shape` in struct order, each string
                        read back as the field's bytes with every byte utf8.DecodeRune rejects replaced by U+FFFD (`toValid`),
                        string lists element by element, the score as the number token the encoder wrote.  So the round trip
                        holds, not only well-formedness.
    `json_object`       that object spelled out per verbosity
    `json_text_of_items`  the same for ANY item list handed to the encoder (ints, bools and nulls included)
    `toValid_ascii`     ASCII text reads back unchanged
  ASSUMED (explicit hypotheses):
    `hstr`     the string encoder is the model.  Tied to the code on every C17 run: the driver renders every string with
               `jsonStrModel`, the result block is compared byte for byte with the real binary's stdout, and the renderings
               json.Marshal gives for every printed string are compared with the model's one by one (`doc` lines).
    `NumOK`    what encoding/json writes for a float64 score is a number token (decidable on the bytes: `isNumTok`).
               strconv's shortest formatting and encoding/json's exponent clean-up are NOT modelled.  Checked by the driver
               on the real rendering of every printed score.  For NaN / ±Inf, `Encode` fails and prints nothing: such a score
               falsifies `NumOK`'s premise about the code, not the theorem (the engine's scores are finite, C10).
  FROM THE REGENERATED TABLES (by evaluation): `layout_ok` -- the prefix and indentation passed to SetIndent are white space;
    `names_ok` -- every json name of the item struct is printable ASCII without `"` `\` `<` `>` `&`, so it is written and read
    as it is.  A SetIndent(">", …) or a tag `json:"a\"b"` makes these fail, as it should.
-/
namespace Wtf.C17
open Wtf.Cli Wtf.ScoreOps Wtf.JsonText

variable {S : Type} [ScoreOps S]

/-- SetIndent's prefix and indentation (regenerated from the call) are white space -/
theorem layout_ok : indentOK = true := by decide

/-- the json names of the item struct (regenerated from its tags) are written, and read, as they are -/
theorem names_ok : NamesOK := by unfold NamesOK; decide +kernel

/-- Any items, any formatter whose strings are the model's and whose numbers are number tokens: the text the encoder lays
    out is a complete JSON text, the array of the items' objects with every value read back. -/
theorem json_text_of_items (F : Fmt S) (hstr : F.jsonStr = jsonStrModel) (hnum : NumOK F) (items : List (Item S)) :
    parseValue (encodeItems F items) = some (expectedJson F items, [0x0A]) ∧
    parseText (encodeItems F items) = some (expectedJson F items) :=
  ⟨parseValue_encodeItems layout_ok names_ok hstr hnum items, parseText_encodeItems layout_ok names_ok hstr hnum items⟩

/-- as `cliSearch_json`: one fact of the arithmetic in place of `ScoreLaws` -/
theorem json_wellformed_of_zero (fl : Flags) (w : World S) (h0 : lt (zero : S) zero = false) (hf : formatOf fl.format = .json)
    (hstr : w.F.jsonStr = jsonStrModel) (hnum : NumOK w.F) :
    (cliSearch fl w).stage = .printed →
    ∃ objs : List JVal,
      parseValue (cliSearch fl w).block = some (.arr objs, [0x0A]) ∧
      parseText (cliSearch fl w).block = some (.arr objs) ∧
      objs.length = (cliSearch fl w).results.length ∧
      objs = (cliSearch fl w).results.map (fun r => jobjOf w.F (expectedMembers fl.verbose (w.docs r.1) r.2)) := by
  intro hp
  obtain ⟨hm, _, hb⟩ := cliSearch_json fl w h0 hf
  have hobjs : (cliSearch fl w).jsonItems.map (fun it => jobjOf w.F (objFields Gen.Cli.jsonFields it))
      = (cliSearch fl w).results.map (fun r => jobjOf w.F (expectedMembers fl.verbose (w.docs r.1) r.2)) := by
    have := congrArg (List.map (jobjOf w.F)) hm
    simp only [List.map_map] at this
    exact this
  obtain ⟨h1, h2⟩ := json_text_of_items w.F hstr hnum (cliSearch fl w).jsonItems
  refine ⟨_, ?_, ?_, ?_, rfl⟩
  · rw [hb hp, h1, expectedJson, hobjs]
  · rw [hb hp, h2, expectedJson, hobjs]
  · simp

/-- Clause "with --format json the result block is a well-formed JSON array with one object per result".
    The block parses as one JSON value followed only by the final newline; the value is an array with one object per
    printed result, in printed order; each object is the members `json_shape` lists, names in struct order, values read
    back (`jobjOf`: strings as `toValid` of the database text, string lists element-wise, the score as its token). -/
theorem json_wellformed [ScoreLaws S] (fl : Flags) (w : World S) (hf : formatOf fl.format = .json)
    (hstr : w.F.jsonStr = jsonStrModel) (hnum : NumOK w.F) :
    (cliSearch fl w).stage = .printed →
    ∃ objs : List JVal,
      parseValue (cliSearch fl w).block = some (.arr objs, [0x0A]) ∧
      parseText (cliSearch fl w).block = some (.arr objs) ∧
      objs.length = (cliSearch fl w).results.length ∧
      objs = (cliSearch fl w).results.map (fun r => jobjOf w.F (expectedMembers fl.verbose (w.docs r.1) r.2)) :=
  json_wellformed_of_zero fl w (ScoreLaws.lt_irrefl _) hf hstr hnum

/-- one object, spelled out: `command` and `description` always; `category` when the entry has one; `keywords`,
    `platforms` (when non-empty) and `score` (when non-zero) only with --verbose -/
theorem json_object (F : Fmt S) (verbose : Bool) (d : Doc) (s : S) :
    jobjOf F (expectedMembers verbose d s) = .obj (
      [(bs "command", .str (toValid d.command)), (bs "description", .str (toValid d.description))]
      ++ (if verbose && !d.keywords.isEmpty then [(bs "keywords", .arr (d.keywords.map (fun k => .str (toValid k))))] else [])
      ++ (if !d.niche.isEmpty then [(bs "category", .str (toValid d.niche))] else [])
      ++ (if verbose && !d.platform.isEmpty then [(bs "platforms", .arr (d.platform.map (fun k => .str (toValid k))))] else [])
      ++ (if verbose && !isZeroScore s then [(bs "score", .num (F.jsonNum s))] else [])) := by
  unfold jobjOf expectedMembers
  simp only [List.map_append, apply_ite (List.map _), List.map_cons, List.map_nil, jvalOf]

/-- text that is ASCII reads back unchanged -/
theorem toValid_ascii (s : Bytes) (h : ∀ c ∈ s, c.toNat < 0x80) : toValid s = s := by
  unfold toValid
  induction s with
  | nil => rfl
  | cons b t ih =>
    have hb : b.toNat < 0x80 := h b (by simp)
    rw [(copy_ascii b t hb).2, ih (fun c hc => h c (by simp [hc]))]

/-! ## non-vacuity -/
section examples

private instance : ScoreOps Int where
  zero := 0
  one := 1
  add := (· + ·)
  sub := (· - ·)
  mul := (· * ·)
  div := (· / ·)
  lt a b := decide (a < b)
  ofNat n := n
  ofQ q := q.num / q.den

/-- strings by the model (`jsonStrF` is `jsonStrModel` in the form `decide` can run), numbers as `%d` (integers are number
    tokens) -/
private def exF : Fmt Int := { fmtFloat := fun _ s => intDec s, jsonStr := jsonStrF, jsonNum := fun s => intDec s }
private theorem exF_str : exF.jsonStr = jsonStrModel := jsonStrF_eq

-- `NumOK` is satisfiable, and `isNumTok` does reject what is not a number
private theorem exF_num : NumOK exF := fun s => isNumTok_intDec s
example : isNumTok (bs "-0") = true ∧ isNumTok (bs "12.50e-3") = true ∧ isNumTok (bs "1E+21") = true := by decide +kernel
example : isNumTok (bs "NaN") = false ∧ isNumTok (bs "+Inf") = false ∧ isNumTok (bs "01") = false ∧ isNumTok (bs "1.") = false ∧
    isNumTok (bs ".5") = false ∧ isNumTok (bs "1e") = false ∧ isNumTok [] = false ∧ isNumTok (bs "0x10") = false := by decide +kernel

/-- quotes, `<` `>` `&`, a backslash, a control byte (BEL), a line break, invalid UTF-8 (a lone FF, a truncated C3),
    U+2028, a two-byte rune (é) and a rune outside the BMP (U+1F600) -/
private def hostile : Bytes :=
  bs "say \"hi\" <b>&" ++ [0x5C, 0x07, 0x0A, 0xFF, 0xC3, 0x20, 0xE2, 0x80, 0xA8, 0xC3, 0xA9, 0xF0, 0x9F, 0x98, 0x80]

private def exItem : Item Int :=
  [("it.Command", .bytes hostile), ("it.Description", .bytes []), ("it.Keywords", .strs [bs "a<b", [0xC3]]),
   ("it.Category", .bytes (bs "net")), ("it.Platforms", .strs []), ("it.Score", .score 3)]

-- what the encoder writes for the hostile text: everything dangerous is escaped, the runes are copied
--   "say \"hi\" \u003cb\\u003e\\u0026\\\\\\u0007\\n\\ufffd\\ufffd \\u2028" followed by the bytes of U+00E9 and U+1F600 and the closing quote
example : jsonStrF hostile =
    [0x22, 0x73, 0x61, 0x79, 0x20, 0x5C, 0x22, 0x68, 0x69, 0x5C, 0x22, 0x20, 0x5C, 0x75, 0x30, 0x30, 0x33, 0x63,
     0x62, 0x5C, 0x75, 0x30, 0x30, 0x33, 0x65, 0x5C, 0x75, 0x30, 0x30, 0x32, 0x36, 0x5C, 0x5C, 0x5C, 0x75, 0x30,
     0x30, 0x30, 0x37, 0x5C, 0x6E, 0x5C, 0x75, 0x66, 0x66, 0x66, 0x64, 0x5C, 0x75, 0x66, 0x66, 0x66, 0x64, 0x20,
     0x5C, 0x75, 0x32, 0x30, 0x32, 0x38, 0xC3, 0xA9, 0xF0, 0x9F, 0x98, 0x80, 0x22] := by decide +kernel
-- and what a reader gets back: the same text with U+FFFD for the two invalid bytes
example : toValid hostile = bs "say \"hi\" <b>&" ++
    [0x5C, 0x07, 0x0A, 0xEF, 0xBF, 0xBD, 0xEF, 0xBF, 0xBD, 0x20, 0xE2, 0x80, 0xA8, 0xC3, 0xA9, 0xF0, 0x9F, 0x98, 0x80] := by decide +kernel
/-- the four vectors about `exItem` below in one statement: the kernel encodes the item once for all of them -/
private theorem itemVectors :
    (parseText (encodeItems exF [exItem, exItem])).map (JVal.beq (expectedJson exF [exItem, exItem])) = some true ∧
    ((parseText (encodeItems exF [exItem])).map fun v => JVal.beq v (.arr [.obj [
      (bs "command", .str (toValid hostile)), (bs "description", .str []),
      (bs "keywords", .arr [.str (bs "a<b"), .str [0xEF, 0xBF, 0xBD]]), (bs "category", .str (bs "net")),
      (bs "score", .num (bs "3"))]])) = some true ∧
    (parseText (encodeItems { exF with jsonStr := fun b => [0x22] ++ b ++ [0x22] } [exItem])).isNone ∧
    (parseText (encodeItems { exF with jsonNum := fun _ => bs "NaN" } [exItem])).isNone := by decide +kernel
-- the block of two such items parses, completely, to the expected array (computed), as `json_text_of_items` says
example : (parseText (encodeItems exF [exItem, exItem])).map (JVal.beq (expectedJson exF [exItem, exItem])) = some true :=
  itemVectors.1
example : parseText (encodeItems exF [exItem]) = some (expectedJson exF [exItem]) := (json_text_of_items exF exF_str exF_num _).2
example : ((parseText (encodeItems exF [exItem])).map fun v => JVal.beq v (.arr [.obj [
    (bs "command", .str (toValid hostile)), (bs "description", .str []),
    (bs "keywords", .arr [.str (bs "a<b"), .str [0xEF, 0xBF, 0xBD]]), (bs "category", .str (bs "net")),
    (bs "score", .num (bs "3"))]])) = some true := itemVectors.2.1
-- no items: `[]` and the newline
example : encodeItems exF [] = bs "[]\n" ∧ (parseText (encodeItems exF [])).map (JVal.beq (.arr [])) = some true := by decide +kernel
-- the recogniser rejects what the encoder must not write: a raw control byte, invalid UTF-8, an unknown escape, a missing
-- bracket, a trailing comma, a missing colon, text after the value, an unescaped quote, a surrogate escape
example : (parseText (bs "[\"a\tb\"]")).isNone ∧ (parseText ([0x22, 0xFF, 0x22])).isNone ∧ (parseText (bs "[\"a\\qb\"]")).isNone ∧
    (parseText (bs "[{\"a\": 1}")).isNone ∧ (parseText (bs "[1,]")).isNone ∧ (parseText (bs "{\"a\" 1}")).isNone ∧
    (parseText (bs "[1] x")).isNone ∧ (parseText (bs "\"a\"b\"")).isNone ∧ (parseText (bs "[\"\\ud800\"]")).isNone := by
  decide +kernel
-- and accepts the rest of the grammar
example : (parseText (bs " [1, 2.5e-3, -0, true, false, null, {\"a\": [], \"b\": {}}, \"\\u00e9\\n\\/\"]\r\n")).map
    (JVal.beq (.arr [.num (bs "1"), .num (bs "2.5e-3"), .num (bs "-0"), .bool true, .bool false, .null,
      .obj [(bs "a", .arr []), (bs "b", .obj [])], .str [0xC3, 0xA9, 0x0A, 0x2F]])) = some true := by decide +kernel
-- a string encoder that copies the bytes (what `fmt.Printf("\"%s\"")` would do) does NOT give a JSON text on this item
example : (parseText (encodeItems { exF with jsonStr := fun b => [0x22] ++ b ++ [0x22] } [exItem])).isNone := itemVectors.2.2.1
-- nor does a number formatter that writes NaN
example : (parseText (encodeItems { exF with jsonNum := fun _ => bs "NaN" } [exItem])).isNone := itemVectors.2.2.2

-- `json_wellformed` on a concrete run: two results, verbose
private def exDocs : Nat → Doc
  | 0 => { command := hostile, description := bs "List <files>", niche := bs "files", keywords := [bs "list", [0xFF]], platform := [bs "linux"] }
  | _ => { command := bs "tar czf a.tgz dir", description := bs "Compress a directory" }

private def exWorld : World Int where
  vquery := .ok (bs "list files")
  engine := fun o => [((1 : Nat), (7 : Int)), (0, 3)].take o.limit.toNat
  recovery := none
  gate := fun _ _ => true
  hist := { entries := [], maxSize := Gen.Cli.historyMax }
  docs := exDocs
  F := exF

private def exFlags : Flags := { format := bs "JSON", verbose := true }

-- the hypotheses of `json_wellformed` hold of this run (`ScoreLaws` is a class of ordered fields, Proofs/ScoreField.lean;
-- the integers serve to run the model) ...
example : formatOf exFlags.format = .json ∧ exWorld.F.jsonStr = jsonStrModel ∧ NumOK exWorld.F ∧
    (cliSearch exFlags exWorld).stage = .printed := ⟨by decide, exF_str, exF_num, by decide⟩
-- ... and its conclusion, computed: two objects, the hostile entry second (score 3 < 7), every member read back
example : (parseText (cliSearch exFlags exWorld).block).map (JVal.beq (.arr [
    .obj [(bs "command", .str (bs "tar czf a.tgz dir")), (bs "description", .str (bs "Compress a directory")), (bs "score", .num (bs "7"))],
    .obj [(bs "command", .str (toValid hostile)), (bs "description", .str (bs "List <files>")),
          (bs "keywords", .arr [.str (bs "list"), .str [0xEF, 0xBF, 0xBD]]), (bs "category", .str (bs "files")),
          (bs "platforms", .arr [.str (bs "linux")]), (bs "score", .num (bs "3"))]])) = some true := by
  rw [(block_of_answer exFlags exWorld rfl (by decide : Validate.validateLimit 0 = .ok 5) rfl (by decide) (by decide)).1]
  decide +kernel

end examples

end Wtf.C17
