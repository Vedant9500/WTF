import WtfModel.Proofs.CacheLayer
import WtfModel.Gen.CacheKey
import WtfModel.Gen.Constants
import WtfModel.Gen.Lru

/-!
  C05 — the result cache is invisible: cached answers equal fresh answers.
  Property theorems only (helper lemmas: Proofs/CacheLayer.lean, Proofs/Lru*.lean).

  All statements are over the layer model `Wtf.CacheLayer` instantiated with the code-shape facts regenerated
  from the source on every run (`Gen.CacheKey`: key fields and json tags, the two conversion literals, the
  option fields the engine reads, the fallback key's fields) and the regenerated cache capacity / lifetime.
  They quantify over every engine `answer`, every database type, every answer type, every query normaliser,
  every history of search / monitoredSearch / invalidate / enable / cleanup / update / advance operations.

  Hypotheses, each an explicit predicate:
    `Injective E.enc`        real key string determines (normalised query, JSON view of the options):
                             SHA-256 collision-freedom + injectivity of the JSON text on that view
                             (float64 shortest round-trip formatting, sorted map keys, distinct json names)
                             + "a fallback key is never 64 hex digits".  ASSUMED, not proved.
    `EngineReadsOnly E reads`  the answer depends on the options only through the fields the engine selects,
                             up to the `omitempty` identification `≈` (`CacheLayer.Equiv`).  Justified by the
                             regenerated, syntactic reads analysis (`Gen.CacheKey.engineReads`) and tested by the
                             monitor (nil vs empty, 0.0 vs -0.0, invalid UTF-8 vs U+FFFD); ASSUMED in Lean.
    `EngineNormalises E`     the engine replaces the query by normQ(query) before any use.  Justified by the
                             regenerated fact `engineNormalisesQuery` (theorem `code_shape`); ASSUMED in Lean.
  No finiteness hypothesis: a request with NaN / ±Inf floats (json.Marshal fails) is keyed by the Go-syntax
  text of the same struct, which carries every field; `EngineReadsOnly` then also says that the engine treats
  all NaNs alike (`b > 0` is false for each of them).  The Marshal-error branch used to keep only query and
  limit: `old_fallback_breaks_transparency` shows what that did.

  Continued in Props/C05b.lean: there `E.enc = hash ∘ (modelled text of the key struct)` and `Injective E.enc` is replaced
  by `hash` injective + `FloatFmtOK` (+ `GoTextOK` for NaN / ±Inf requests), the injectivity of the JSON text on the key
  view being a theorem (`key_text_injective`, `enc_separates`, `transparent_keyed`, `no_sharing_keyed`).
-/
namespace Wtf.C05
open Wtf.CacheLayer

/-- the conversion literal of SearchWithOptionsAndCache / of convertToCacheOptions, with the key struct -/
def shC : Shape := ⟨Gen.CacheKey.keyFields, Gen.CacheKey.convCached⟩
def shM : Shape := ⟨Gen.CacheKey.keyFields, Gen.CacheKey.convMonitored⟩
abbrev reads : List String := Gen.CacheKey.engineReads

/-- NewCachedDatabase(db) / NewMonitoredDatabase(db) -/
def init0 {κ Db Ans : Type} (db : Db) : State κ Db Ans :=
  init Gen.Lru.defaultCapacity Gen.Constants.DefaultCacheCapacity Gen.Constants.DefaultCacheTTL db

/-- all floats of the request are finite (json.Marshal succeeds) -/
def FiniteOpts (o : Opts) : Prop := ∀ f, (o f).marshalOK = true

variable {Db Ans κ : Type} [DecidableEq κ]

/-- Every option field the engine reads is copied into the key, at both conversion sites.
    (regenerated facts; fails to build as soon as a read field is not keyed) -/
theorem key_covers_reads :
    ∀ f ∈ Gen.CacheKey.engineReads,
      (∃ kf ∈ Gen.CacheKey.keyFields, Gen.CacheKey.convCached.lookup kf.1 = some f) ∧
      (∃ kf ∈ Gen.CacheKey.keyFields, Gen.CacheKey.convMonitored.lookup kf.1 = some f) := by
  decide +kernel

theorem coversC : covers shC reads = true := covers_iff.mpr fun f hf => (key_covers_reads f hf).1
theorem coversM : covers shM reads = true := covers_iff.mpr fun f hf => (key_covers_reads f hf).2

/-- The code-shape facts the model's control flow mirrors (regenerated): the engine and the key normalise
    the query with the same expression; UpdateDatabase clears the LRU after replacing the commands; Put uses
    the very (query, cacheOptions) of the Get and stores the engine's answer for the request's own
    (query, options), only when non-empty; the monitored search is one extra Get plus the cached search;
    on a Marshal error the whole key struct is hashed in Go syntax. -/
theorem code_shape :
    Gen.CacheKey.engineNormalisesQuery = true ∧ Gen.CacheKey.keyNormalisesQuery = true ∧
    Gen.CacheKey.updateInvalidates = true ∧ Gen.CacheKey.putMatchesGet = true ∧
    Gen.CacheKey.putOnlyNonEmpty = true ∧ Gen.CacheKey.monitoredDelegates = true ∧
    Gen.CacheKey.fallbackMode = "gosyntax-all-fields" := by
  decide +kernel

omit [DecidableEq κ] in
/-- Options with the same key projection have the same answer (either conversion site). -/
theorem proj_sound (E : Env Db Ans κ) (hr : EngineReadsOnly E reads) (db : Db) (q : Query) (o o' : Opts)
    (h : proj E.utf8 shC o = proj E.utf8 shC o' ∨ proj E.utf8 shM o = proj E.utf8 shM o') :
    E.answer db q o = E.answer db q o' := by
  cases h with
  | inl h => exact hr db q o o' (CacheLayer.proj_sound coversC h)
  | inr h => exact hr db q o o' (CacheLayer.proj_sound coversM h)

omit [DecidableEq κ] in
/-- Queries with the same normal form have the same answer. -/
theorem query_norm_sound (E : Env Db Ans κ) (hn : EngineNormalises E) (db : Db) (q q' : Query) (o : Opts)
    (h : E.normQ q = E.normQ q') : E.answer db q o = E.answer db q' o := by
  rw [hn db q o, h, ← hn db q' o]

/-- A request with finite floats is keyed by the JSON text at both sites. -/
theorem finite_marshalOK (o : Opts) (h : FiniteOpts o) : marshalOK shC o = true ∧ marshalOK shM o = true :=
  ⟨marshalOK_of_finite shC h, marshalOK_of_finite shM h⟩

/-- "Requests that differ in anything that can change the answer never share a cached entry":
    different answers (on any database) ⇒ different real key strings. -/
theorem no_sharing (E : Env Db Ans κ) (hinj : ∀ a b, E.enc a = E.enc b → a = b)
    (hr : EngineReadsOnly E reads) (hn : EngineNormalises E)
    (db : Db) (q q' : Query) (o o' : Opts)
    (hdiff : E.answer db q o ≠ E.answer db q' o') :
    E.enc (keyOf E shC q o) ≠ E.enc (keyOf E shC q' o') := by
  intro hk
  exact hdiff (key_sound coversC hr hn (hinj _ _ hk) db)

/-- Invariant of every reachable state: each cached pair is (key of some request, the engine's answer to
    that request on the database now in force). -/
theorem inv (E : Env Db Ans κ) (db0 : Db) (hist : List (Op Db)) :
    let s := final E shC shM (init0 db0 : State κ Db Ans) hist
    ∀ e ∈ s.lru.entries, ∃ q o, e.key = E.enc (keyOf E shC q o) ∧ e.val = E.answer (dbAfter db0 hist) q o := by
  intro s e he
  have hdb : s.db = dbAfter db0 hist := final_db E shC shM _ hist
  rw [← hdb]
  exact run_inv (init_inv E shC _ _ _ db0) hist e he

/-- MAIN THEOREM.  In any history, the i-th operation being a search or a monitored search for (q, o) -- any
    options, NaN and ±Inf included -- its output is exactly the engine's answer to (q, o) on the database in force at that
    moment (the initial one, or the argument of the latest `update` among the first i operations) --
    whatever was searched, invalidated, switched, swept, replaced or how much time passed before. -/
theorem transparent (E : Env Db Ans κ) (hinj : ∀ a b, E.enc a = E.enc b → a = b)
    (hr : EngineReadsOnly E reads) (hn : EngineNormalises E)
    (db0 : Db) (hist : List (Op Db)) (i : Nat) (q : Query) (o : Opts)
    (hop : hist[i]? = some (.search q o) ∨ hist[i]? = some (.monitoredSearch q o)) :
    (run E shC shM (init0 db0 : State κ Db Ans) hist).2[i]? =
      some (.ans (E.answer (dbAfter db0 (hist.take i)) q o)) :=
  run_specOn (.of_injective hinj shC fun _ => True) coversC hr hn (init_invOn _ E shC _ _ _ db0) hist
    (fun op _ => OpOn.trivial op) i q o hop

/-- A database replacement empties the cache, whatever the switches say; the new commands are in force. -/
theorem update_clears (E : Env Db Ans κ) (s : State κ Db Ans) (cmds : Db) :
    (step E shC shM s (.update cmds)).1.lru.entries = [] ∧ (step E shC shM s (.update cmds)).1.db = cmds :=
  ⟨rfl, rfl⟩

/-- With the cache switched off a search is the engine's answer and leaves the state untouched
    (for the monitored search too: in reachable states both switches agree, `switches_agree`). -/
theorem disabled_bypasses (E : Env Db Ans κ) (s : State κ Db Ans) (q : Query) (o : Opts)
    (hm : s.mgrEnabled = false) :
    search E shC s q o = (s, E.answer s.db q o) ∧
    (s.cacheEnabled = false → monitoredSearch E shC shM s q o = (s, E.answer s.db q o)) := by
  have h1 : search E shC s q o = (s, E.answer s.db q o) :=
    searchK_cases (motive := (· = _)) (fun _ => rfl) (hm ▸ nofun) (hm ▸ nofun)
  refine ⟨h1, ?_⟩
  intro hc
  simp [monitoredSearch, scGet, hc, h1]

theorem switches_agree (E : Env Db Ans κ) (db0 : Db) (hist : List (Op Db)) :
    (final E shC shM (init0 db0 : State κ Db Ans) hist).mgrEnabled =
    (final E shC shM (init0 db0 : State κ Db Ans) hist).cacheEnabled :=
  final_flags E shC shM _ hist rfl

/-! ### The Marshal-error branch before its repair (kept so that the reason for the repair stays checkable).

  A NaN (or ±Inf) among the floats makes json.Marshal fail; generateCacheKey used to return
  "search:" ++ query ++ ":" ++ limit then (`keyOfOldFallback … ["Limit"]`), dropping every other option.
  Witness (engine: "1 if PipelineOnly else 2", which satisfies both engine hypotheses; keys injective): the
  requests (q, {ContextBoosts:{x:NaN}, PipelineOnly:true}) and (q, {ContextBoosts:{x:NaN}}) have different
  answers but got the same old key, so the second was served the first one's answer; under the present
  `keyOf` their keys differ and the same two-step history is answered correctly. -/

private def wE : Env Unit Nat KeyData :=
  { answer := fun _ _ o => if (o "PipelineOnly").isEmpty then 2 else 1,
    isEmpty := fun _ => false, normQ := id, utf8 := id, enc := id }
private def nanBits : Nat := 0x7ff8000000000001
private def oNaN : Opts := (zeroOpts Gen.CacheKey.optionFields).set "ContextBoosts" (.boosts (some [([120], nanBits)]))
private def oNaNPipe : Opts := oNaN.set "PipelineOnly" (.bool true)

theorem old_fallback_breaks_transparency :
    ∃ (E : Env Unit Nat KeyData) (q : Query) (o₁ o₂ : Opts),
      (∀ a b, E.enc a = E.enc b → a = b) ∧ EngineReadsOnly E reads ∧ EngineNormalises E ∧
      -- different answers, one old key ...
      E.answer () q o₁ ≠ E.answer () q o₂ ∧
      keyOfOldFallback E shC ["Limit"] q o₁ = keyOfOldFallback E shC ["Limit"] q o₂ ∧
      -- ... so the cached search keyed that way returned the wrong answer in a two-step history ...
      (searchK E (searchK E (init0 ()) (E.enc (keyOfOldFallback E shC ["Limit"] q o₁)) q o₁).1
          (E.enc (keyOfOldFallback E shC ["Limit"] q o₂)) q o₂).2 ≠ E.answer () q o₂ ∧
      -- ... whereas the present key separates the two requests
      keyOf E shC q o₁ ≠ keyOf E shC q o₂ := by
  -- the four facts about the two requests in one evaluation: they share the requests and their keys
  refine ⟨wE, [100], oNaNPipe, oNaN, fun _ _ h => h, ?_, fun _ _ _ => rfl, by decide +kernel⟩
  intro db q o o' h
  have hp : Equiv id (o "PipelineOnly") (o' "PipelineOnly") := h "PipelineOnly" (by decide)
  have he : (o "PipelineOnly").isEmpty = (o' "PipelineOnly").isEmpty := by
    rcases hp with hj | hb | hg
    · rw [Val.json_id, Val.json_id] at hj; rw [hj]
    · rw [hb.1, hb.2]
    · exact isEmpty_of_goView hg
  simp [wE, he]

/-! ### Non-vacuity: hypotheses are satisfiable, and hits really happen. -/

private def o5 : Opts := (zeroOpts Gen.CacheKey.optionFields).set "Limit" (.int 5)
-- the same request again (an example over a literal request: it must not depend on which fields carry `omitempty`
-- in the regenerated key shape, or a harmless tag edit in the source would break this file)
private def o5' : Opts := o5

/-- the seven histories below in one statement: the kernel evaluates what they share (the environment, the key of
    the first request, the first search) once for all of them -/
theorem cacheVectors :
    (let r := run wE shC shM (init0 ()) [.search [100] o5, .search [100] o5']
    r.2 = [.ans 2, .ans 2] ∧ r.1.lru.hits = 1 ∧ r.1.lru.misses = 1 ∧ r.1.lru.entries.length = 1) ∧
    ((run wE shC shM (init0 ()) [.search [100] o5, .search [100] (o5.set "PipelineOnly" (.bool true))]).1.lru.entries.length = 2) ∧
    ((run wE shC shM (init0 ()) [.search [100] o5, .update (), .search [100] o5]).1.lru.hits = 0) ∧
    ((run wE shC shM (init0 ()) [.search [100] o5, .enable false, .search [100] o5, .monitoredSearch [100] o5]).1.lru.hits = 0) ∧
    ((run wE shC shM (init0 ()) [.search [100] o5, .advance 300000000001, .search [100] o5]).1.lru.hits = 0) ∧
    ((run wE shC shM (init0 ()) [.search [100] o5, .advance 300000000000, .monitoredSearch [100] o5]).1.lru.hits = 2) ∧
    (let r := run wE shC shM (init0 ()) [.search [100] oNaNPipe, .search [100] oNaN, .search [100] oNaN,
      .search [100] (oNaN.set "ContextBoosts" (.boosts (some [([120], 0xfff8000000000002)])))]
    r.2 = [.ans 1, .ans 2, .ans 2, .ans 2] ∧ r.1.lru.hits = 2 ∧ r.1.lru.entries.length = 2) := by decide +kernel

-- a concrete 2-step history whose second search is served from the cache (1 hit, 1 miss, 1 entry) ...
example : let r := run wE shC shM (init0 ()) [.search [100] o5, .search [100] o5']
    r.2 = [.ans 2, .ans 2] ∧ r.1.lru.hits = 1 ∧ r.1.lru.misses = 1 ∧ r.1.lru.entries.length = 1 := cacheVectors.1
-- ... a different option value is a different entry ...
example : (run wE shC shM (init0 ()) [.search [100] o5, .search [100] (o5.set "PipelineOnly" (.bool true))]).1.lru.entries.length = 2 := cacheVectors.2.1
-- ... an update empties the cache, disabling bypasses it, and the entry expires after the lifetime
example : (run wE shC shM (init0 ()) [.search [100] o5, .update (), .search [100] o5]).1.lru.hits = 0 := cacheVectors.2.2.1
example : (run wE shC shM (init0 ()) [.search [100] o5, .enable false, .search [100] o5, .monitoredSearch [100] o5]).1.lru.hits = 0 := cacheVectors.2.2.2.1
example : (run wE shC shM (init0 ()) [.search [100] o5, .advance 300000000001, .search [100] o5]).1.lru.hits = 0 := cacheVectors.2.2.2.2.1
example : (run wE shC shM (init0 ()) [.search [100] o5, .advance 300000000000, .monitoredSearch [100] o5]).1.lru.hits = 2 := cacheVectors.2.2.2.2.2.1
-- NaN requests: repeats hit, a differing option is a different entry, NaN payloads are merged
example : let r := run wE shC shM (init0 ()) [.search [100] oNaNPipe, .search [100] oNaN, .search [100] oNaN,
      .search [100] (oNaN.set "ContextBoosts" (.boosts (some [([120], 0xfff8000000000002)])))]
    r.2 = [.ans 1, .ans 2, .ans 2, .ans 2] ∧ r.1.lru.hits = 2 ∧ r.1.lru.entries.length = 2 := cacheVectors.2.2.2.2.2.2
example : FiniteOpts o5 := by
  intro f; unfold o5 Opts.set zeroOpts
  split
  · rfl
  · split
    · exact zeroOf_marshalOK _
    · rfl
example : ¬ FiniteOpts oNaN := fun h => absurd (h "ContextBoosts") (by decide +kernel)

end Wtf.C05
