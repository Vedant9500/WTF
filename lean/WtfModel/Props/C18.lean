import WtfModel.Proofs.MetricsHist
import WtfModel.Proofs.MetricsMonitor
import WtfModel.Gen.Metrics

/-!
  C18 — metrics are keyed by identity and account for every event.
  Property theorems only (helper lemmas: Proofs/Metrics*.lean).  `Gen.Metrics.*` is regenerated from
  /repo/internal/metrics on every run: `keyLoopSortsTags` (shape of `metricKey`), the two separator
  literals, `counterOpsAtomic`, `histObserveLocked`, `defaultBuckets`.

  Reading guide: a tag map is a duplicate-free association list `tags`; `σ` is the order in which one
  `range tags` loop delivers the names (`ValidSched tags σ`: any permutation); a "metric" returned by the
  collector is a position in a registry (the model's stand-in for the Go pointer).
-/
namespace Wtf.C18
open Wtf.Metrics

/-- the separators found in the source -/
def seps : Seps := ⟨asc Wtf.Gen.Metrics.tagSep, asc Wtf.Gen.Metrics.kvSep⟩

/-- `Collector.metricKey` of the code as it is now -/
def key (name : Bytes) (tags : Tags) (σ : List Bytes) : Bytes :=
  metricKey Wtf.Gen.Metrics.keyLoopSortsTags seps name tags σ

/-- model configuration taken from the source, for any number type -/
def cfgOf {α : Type} (buckets : List α) : Cfg α := ⟨Wtf.Gen.Metrics.keyLoopSortsTags, seps, buckets⟩

/-- the default bucket table as rationals -/
def defaultBuckets : List Rat := Wtf.Gen.Metrics.defaultBuckets.map qToRat

/-! ### same name + same tags ⇒ same key, whatever order the tags are held in -/

/-- The key does not depend on the order in which the map delivers the tag names.  Premise (checked by
    `decide` against the regenerated fact): the concatenating loop of `metricKey` walks a sorted slice
    of the names and not the map. -/
theorem key_sched_indep (name : Bytes) (tags : Tags) {σ₁ σ₂ : List Bytes}
    (h₁ : ValidSched tags σ₁) (h₂ : ValidSched tags σ₂) : key name tags σ₁ = key name tags σ₂ := by
  have hs : Wtf.Gen.Metrics.keyLoopSortsTags = true := by decide
  unfold key
  rw [hs]
  exact metricKey_sorted_indep _ _ _ (h₁.trans h₂.symm)

/-- … nor on the order in which the caller inserted the tags into the map. -/
theorem key_tags_perm (name : Bytes) {t₁ t₂ : Tags} (ht : t₁.Perm t₂) (hn : (tagNames t₁).Nodup)
    {σ₁ σ₂ : List Bytes} (h₁ : ValidSched t₁ σ₁) (h₂ : ValidSched t₂ σ₂) : key name t₁ σ₁ = key name t₂ σ₂ := by
  have hs : Wtf.Gen.Metrics.keyLoopSortsTags = true := by decide
  unfold key
  rw [hs]
  exact metricKey_perm _ _ ht hn h₁ h₂

/-- Asking twice for the same name and tag set (tags arranged and iterated in any two orders) yields the
    same metric — the same position — and the second call creates nothing: the registry is unchanged.
    The series found there is filed under that identity's key, and keys stay unique. -/
theorem same_series {β : Type} (r : Registry β) (name : Bytes) {t₁ t₂ : Tags} (ht : t₁.Perm t₂)
    (hn : (tagNames t₁).Nodup) {σ₁ σ₂ : List Bytes} (h₁ : ValidSched t₁ σ₁) (h₂ : ValidSched t₂ σ₂)
    (fresh fresh' : β) :
    let g₁ := getOrCreate r (key name t₁ σ₁) name t₁ fresh
    let g₂ := getOrCreate g₁.1 (key name t₂ σ₂) name t₂ fresh'
    g₂.2 = g₁.2 ∧ g₂.1 = g₁.1 ∧
    (∃ s, g₁.1[g₁.2]? = some s ∧ s.key = key name t₁ σ₁) ∧
    ((keysOf r).Nodup → (keysOf g₂.1).Nodup) := by
  intro g₁ g₂
  have hk : key name t₂ σ₂ = key name t₁ σ₁ := (key_tags_perm name ht hn h₁ h₂).symm
  have hg : g₂ = g₁ := by
    show getOrCreate (getOrCreate r _ name t₁ fresh).1 (key name t₂ σ₂) name t₂ fresh' = _
    rw [hk]; exact getOrCreate_again r _ name name t₁ t₂ fresh fresh'
  refine ⟨by rw [hg], by rw [hg], getOrCreate_fst_snd r _ name t₁ fresh, ?_⟩
  intro hnd
  rw [hg]
  exact getOrCreate_nodup r _ name t₁ fresh hnd

/-- **Every event recorded for one series lands in one series.**  After any sequence of recorded events
    (each a get-or-create followed by an update of the metric obtained; any interleaving of such
    lock-protected steps is such a sequence) starting from an empty registry: no key has two series,
    every series was asked for, and what is filed under a key is the result of applying, in order,
    exactly the events of that key — all events of one identity among them, by `key_sched_indep`. -/
theorem events_land_in_one_series {β : Type} (fresh : β) (es : List (Ev β)) :
    (keysOf (applyEvs fresh [] es)).Nodup ∧
    (∀ k ∈ keysOf (applyEvs fresh [] es), k ∈ es.map (·.key)) ∧
    (∀ K, valD (applyEvs fresh [] es) K fresh =
      (es.filter (fun e => decide (e.key = K))).foldl (fun v e => e.f v) fresh) := by
  refine ⟨applyEvs_nodup fresh es [] List.nodup_nil, fun k hk => ?_, fun K => valD_applyEvs fresh es K []⟩
  obtain ⟨e, he, rfl⟩ := ((mem_keysOf_applyEvs fresh es [] k).mp hk).resolve_left List.not_mem_nil
  exact List.mem_map_of_mem he

/-- what the property promises for a counter: number of `Inc` plus the sum of `Add` arguments since the
    last `Reset` (unbounded integers) -/
def expected (ops : List CounterOp) : Int := (incs (sinceReset ops) : Int) + adds (sinceReset ops)

/-- The value after any sequence of operations is that number, as an int64 (wraps exactly when the
    number does not fit), hence equal to it whenever it fits. -/
theorem counter (ops : List CounterOp) :
    counterRun 0 ops = wrap64 (expected ops) ∧
    (-(2 ^ 63) ≤ expected ops → expected ops < 2 ^ 63 → counterRun 0 ops = expected ops) :=
  ⟨counterRun_zero ops, fun h1 h2 => by rw [counterRun_zero ops]; exact wrap64_of_range h1 h2⟩

/-- After observing `vs` (in that order) a histogram reports `vs.length` observations and their sum
    accumulated left to right; every observation sits in exactly one of the `len(buckets)+1` cells. -/
theorem hist_count_sum {α : Type} [Num α] (buckets : List α) (vs : List α) :
    let h := (Hist.new buckets).observeAll vs
    h.count = vs.length ∧ h.sum = vs.foldl Num.add Num.zero ∧
    h.counts.sum = vs.length ∧ h.counts.length = buckets.length + 1 ∧ h.buckets = buckets := by
  intro h
  obtain ⟨w, hc, hs, hb⟩ := Hist.observeAll_spec vs (Hist.new_wf buckets)
  have hc : h.count = vs.length := hc.trans (Nat.zero_add _)
  exact ⟨hc, hs, w.total.trans hc, by rw [w.cells, hb]; rfl, hb⟩

/-- the regenerated default bucket table is strictly increasing (and not empty) -/
theorem buckets_sorted : defaultBuckets.Pairwise (· < ·) ∧ defaultBuckets ≠ [] :=
  ⟨qSorted_pairwise _ (by decide), by
    intro h
    have : Wtf.Gen.Metrics.defaultBuckets.length ≠ 0 := by decide
    exact this (by simpa [defaultBuckets] using congrArg List.length h)⟩

/-- Percentiles never decrease as the percentile grows.  Over the rationals, the conversion
    `int64(float64(count)*p/100.0)` being truncation toward zero (= floor, as `0 ≤ p`).
    Domain hypotheses: the bucket list is sorted and not empty (an empty custom list makes Go panic),
    `0 ≤ p ≤ p' ≤ 100`. -/
theorem percentile_mono (buckets : List Rat) (hs : buckets.Pairwise (· ≤ ·)) (hne : buckets ≠ [])
    (vs : List Rat) {p p' : Rat} (h0 : 0 ≤ p) (hpp : p ≤ p') (h100 : p' ≤ 100) :
    ∃ x y, ((Hist.new buckets).observeAll vs).percentile p = some x ∧
           ((Hist.new buckets).observeAll vs).percentile p' = some y ∧ x ≤ y := by
  obtain ⟨w, _, _, hb⟩ := Hist.observeAll_spec vs (Hist.new_wf buckets)
  exact percentileAt_mono w (by rw [hb]; exact hs) (by rw [hb]; exact hne)
    (target_mono _ h0 hpp) (target_le_count _ (Rat.le_trans h0 hpp) h100)

/-- … in particular for every histogram the collector creates (default buckets). -/
theorem percentile_mono_default (vs : List Rat) {p p' : Rat} (h0 : 0 ≤ p) (hpp : p ≤ p') (h100 : p' ≤ 100) :
    ∃ x y, ((Hist.new defaultBuckets).observeAll vs).percentile p = some x ∧
           ((Hist.new defaultBuckets).observeAll vs).percentile p' = some y ∧ x ≤ y :=
  percentile_mono defaultBuckets (buckets_sorted.1.imp Rat.le_of_lt) buckets_sorted.2 vs h0 hpp h100

/-! ### the monitor's totals -/

/-- After any history of monitor calls (with arbitrary map orders in every database call) starting from
    `NewPerformanceMonitor()`, counting only calls made while the monitor is enabled:
    * `searches_total{cache_hit=b}` = number of searches with that flag; `cache_hits_total` /
      `cache_misses_total` likewise; `query_length` and `search_duration{cache_hit=b}` have that many observations;
    * `database_operations_total{operation=o,success=s}` = number of database calls with exactly that
      operation and outcome, and `database_operation_duration{…}` has that many observations;
    * no key holds two counter series.
    Counter values are int64 (`wrap64`); see `searches_total_sum` for the plain reading. -/
theorem monitor_totals {α : Type} [Num α] (buckets : List α) (ops : List (MonOp α)) (hv : ∀ op ∈ ops, ValidOp op) :
    let m := (Monitor.new : Monitor α).run (cfgOf buckets) ops
    let fresh := Hist.new buckets
    (∀ b, valD m.c.counters (key nSearchesTotal (searchTags b) [tCacheHit]) 0 = wrap64 (countOps (isSearch b) true ops)) ∧
    valD m.c.counters nCacheHits 0 = wrap64 (countOps (isSearch true) true ops) ∧
    valD m.c.counters nCacheMisses 0 = wrap64 (countOps (isSearch false) true ops) ∧
    (valD m.c.hists nQueryLength fresh).count = countOps isAnySearch true ops ∧
    (∀ b, (valD m.c.timers (key nSearchDuration (searchTags b) [tCacheHit]) fresh).count = countOps (isSearch b) true ops) ∧
    (∀ o s σ, ValidSched (dbTags o s) σ →
      valD m.c.counters (key nDbTotal (dbTags o s) σ) 0 = wrap64 (countOps (isDb o s) true ops) ∧
      (valD m.c.timers (key nDbDuration (dbTags o s) σ) fresh).count = countOps (isDb o s) true ops) ∧
    (keysOf m.c.counters).Nodup := by
  have hs : (cfgOf buckets).sorts = true := (by decide : Wtf.Gen.Metrics.keyLoopSortsTags = true)
  -- each clause: what one call does to that series (`step_*`), iterated over the run
  refine ⟨fun b => ?_, ?_, ?_, ?_, fun b => ?_, fun o s σ hσ => ⟨?_, ?_⟩, ?_⟩
  · exact run_counter (cfgOf buckets) _ (isSearch b) ops fun op _ => step_searchesTotal _ op b
  · exact run_counter (cfgOf buckets) _ (isSearch true) ops fun op _ => step_hitMiss _ op true
  · exact run_counter (cfgOf buckets) _ (isSearch false) ops fun op _ => step_hitMiss _ op false
  · exact run_count (cfgOf buckets) (·.hists) rfl _ isAnySearch ops fun op _ => step_qlen _ op
  · exact run_count (cfgOf buckets) (·.timers) rfl _ (isSearch b) ops fun op _ => step_searchDuration _ op b
  · exact run_counter (cfgOf buckets) _ (isDb o s) ops fun op h => step_dbTotal _ op hs o s hσ (hv op h)
  · exact run_count (cfgOf buckets) (·.timers) rfl _ (isDb o s) ops fun op h => step_dbDuration _ op hs o s hσ (hv op h)
  · exact foldl_preserves (fun m op => step_nodup _ op m) ops List.nodup_nil

/-- Σ over the series of `searches_total` = number of searches recorded while enabled
    (as long as that number fits an int64). -/
theorem searches_total_sum {α : Type} [Num α] (buckets : List α) (ops : List (MonOp α)) (hv : ∀ op ∈ ops, ValidOp op)
    (hfit : (countOps isAnySearch true ops : Int) < 2 ^ 63) :
    let m := (Monitor.new : Monitor α).run (cfgOf buckets) ops
    valD m.c.counters (key nSearchesTotal (searchTags true) [tCacheHit]) 0 +
      valD m.c.counters (key nSearchesTotal (searchTags false) [tCacheHit]) 0 = countOps isAnySearch true ops := by
  intro m
  have h := (monitor_totals buckets ops hv).1
  have hsplit := countOps_search_split ops true
  rw [h true, h false, wrap64_of_range (by omega) (by omega), wrap64_of_range (by omega) (by omega)]
  omega

/-! ### concurrent goroutines -/

/-- `N` goroutines each perform `ks[i]` increments of one counter.  Premise (regenerated, `decide`): `Inc`
    is a single `atomic.AddInt64`.  Then for **every** schedule of the atomic steps, at every moment
    value + increments still to be executed = total, so once all goroutines are done the value equals
    the number of increments. -/
theorem counter_total_concurrent (ks : List Nat) (sched : List Nat) :
    let s := (Sys.init Wtf.Gen.Metrics.counterOpsAtomic ks).run sched
    s.shared + remaining s.threads = ks.sum ∧ (s.done = true → s.shared = ks.sum) := by
  have ha : Wtf.Gen.Metrics.counterOpsAtomic = true := by decide
  rw [ha]
  intro s
  have h : AtomicInv ks.sum s := foldl_preserves step_atomicInv sched (init_atomicInv ks)
  exact ⟨h.2, fun hd => by rw [← h.2, remaining_of_done s.threads hd]; exact (Int.add_zero _).symm⟩

/-- `Histogram.Observe` runs under the histogram's exclusive lock, so concurrent observations are
    applied one after the other and `hist_count_sum` speaks about the order in which they took the lock. -/
theorem observe_serialised : Wtf.Gen.Metrics.histObserveLocked = true := by decide

/-! ### non-vacuity and why the premises are needed -/

private def a : Bytes := asc "a"
private def b : Bytes := asc "b"
private def twoTags : Tags := [(a, asc "1"), (b, asc "2")]

/-- with the loop ranging over the map (flag = false) the two iteration orders of a two-tag map give two
    different keys: the premise of `key_sched_indep` is needed -/
example : ValidSched twoTags [a, b] ∧ ValidSched twoTags [b, a] ∧
    metricKey false seps (asc "m") twoTags [a, b] ≠ metricKey false seps (asc "m") twoTags [b, a] :=
  ⟨List.Perm.refl _, List.Perm.swap _ _ _, by decide +kernel⟩

/-- … and two lookups of one identity then create two series -/
example : (getOrCreate (getOrCreate ([] : Registry Nat) (metricKey false seps (asc "m") twoTags [a, b]) (asc "m") twoTags 0).1
    (metricKey false seps (asc "m") twoTags [b, a]) (asc "m") twoTags 0).1.length = 2 := by decide +kernel

/-- whereas the code as it is gives one key, and it is the expected string -/
example : key (asc "m") twoTags [b, a] = asc "m" ++ seps.tag ++ a ++ seps.kv ++ asc "1" ++ seps.tag ++ b ++ seps.kv ++ asc "2" ∧
    key (asc "m") twoTags [a, b] = key (asc "m") twoTags [b, a] := by decide +kernel

/-- distinct tag sets may share a key (the property does not forbid this direction) -/
example : key (asc "m") [(a, asc "1" ++ seps.tag ++ b ++ seps.kv ++ asc "2")] [a] = key (asc "m") twoTags [a, b] := by decide +kernel

example : counterRun 0 [.inc, .add 5, .reset, .inc, .inc, .add 3] = 5 := by decide
example : expected [.inc, .add 5, .reset, .inc, .inc, .add 3] = 5 := by decide
/-- int64 wrap-around is part of the model -/
example : counterRun 0 [.add (2 ^ 63 - 1), .inc] = -(2 ^ 63) := by decide

/-- the percentile loop: cells `[1,0,2,1]`, target 2 is reached in cell 2; a target above the number of
    observations (p > 100, outside the domain) is never reached and `Percentile` then answers 0, which is
    why monotonicity is claimed on [0,100] only -/
example : pctIdx [1, 0, 2, 1] 0 2 0 = some 2 ∧ pctIdx [1, 0, 2, 1] 0 4 0 = some 3 ∧ pctIdx [1, 0, 2, 1] 0 5 0 = none := by decide

/-- an empty custom bucket list makes `Percentile` panic (index -1) -/
example : bucketAt ([] : List Rat) 0 = none := by decide

/-- two searches (one hit, one miss), one ignored while disabled, two loads with different map orders -/
private def demoOps : List (MonOp Nat) :=
  [.search 1 3 true 4, .enable false, .search 1 3 true 4, .enable true, .search 2 0 false 7,
   .db (asc "load") 5 true [tOperation, tSuccess] [tSuccess, tOperation],
   .db (asc "load") 6 true [tSuccess, tOperation] [tOperation, tSuccess]]

private instance : Num Nat := ⟨0, (· + ·), fun x y => decide (x ≤ y), fun n p => n * p / 100⟩

example : ∀ op ∈ demoOps, ValidOp op := by
  simp only [demoOps, List.forall_mem_cons]
  exact ⟨trivial, trivial, trivial, trivial, trivial, ⟨.refl _, .swap _ _ _⟩, ⟨.swap _ _ _, .refl _⟩, fun _ h => (List.not_mem_nil h).elim⟩

/-- the three vectors below in one statement: the kernel decodes the metric names once for all of them -/
private theorem monitorVectors :
    (countOps (isSearch true) true demoOps = 1 ∧ countOps isAnySearch true demoOps = 2 ∧
      countOps (isDb (asc "load") true) true demoOps = 2) ∧
    (((Monitor.new : Monitor Nat).run (cfgOf [10, 20]) demoOps).c.counters.map (fun s => (s.key, s.val))) =
      [(key nSearchesTotal (searchTags true) [tCacheHit], 1), (nCacheHits, 1),
       (key nSearchesTotal (searchTags false) [tCacheHit], 1), (nCacheMisses, 1),
       (key nDbTotal (dbTags (asc "load") true) [tSuccess, tOperation], 2)] ∧
    (((Monitor.new : Monitor Nat).run ⟨false, seps, [10, 20]⟩ demoOps).c.counters.map (fun s => s.val)) =
      [1, 1, 1, 1, 1, 1] := by decide +kernel

example : countOps (isSearch true) true demoOps = 1 ∧ countOps isAnySearch true demoOps = 2 ∧
    countOps (isDb (asc "load") true) true demoOps = 2 := monitorVectors.1

/-- the model run itself: one series for the two loads (flag as in the source) … -/
example : (((Monitor.new : Monitor Nat).run (cfgOf [10, 20]) demoOps).c.counters.map (fun s => (s.key, s.val))) =
    [(key nSearchesTotal (searchTags true) [tCacheHit], 1), (nCacheHits, 1),
     (key nSearchesTotal (searchTags false) [tCacheHit], 1), (nCacheMisses, 1),
     (key nDbTotal (dbTags (asc "load") true) [tSuccess, tOperation], 2)] := monitorVectors.2.1

/-- … two series (the original defect) when the key follows the map order -/
example : (((Monitor.new : Monitor Nat).run ⟨false, seps, [10, 20]⟩ demoOps).c.counters.map (fun s => s.val)) =
    [1, 1, 1, 1, 1, 1] := monitorVectors.2.2

/-- interleavings: 2 goroutines × 1 increment.  Atomic: every complete schedule gives 2. -/
example : ((Sys.init true [1, 1]).run [1, 0]).done = true ∧ ((Sys.init true [1, 1]).run [1, 0]).shared = 2 := by decide

/-- Non-atomic read-modify-write (`c.value++`): the schedule load₀ load₁ store₀ store₁ completes both
    goroutines and loses an increment — the premise of `counter_total_concurrent` is needed. -/
example : ((Sys.init false [1, 1]).run [0, 1, 0, 1]).done = true ∧ ((Sys.init false [1, 1]).run [0, 1, 0, 1]).shared = 1 := by decide

end Wtf.C18
