import WtfModel.Proofs.AtomicWrite
import WtfModel.Gen.AtomicWrite

/-!
  C09 — an interrupted or failed write never damages the notebook or the history.

  Property theorems only.  They are stated over the program REGENERATED from the body of
  utils.WriteFileAtomic (`Gen.AtomicWrite.writeFileAtomic`), for every file system, every new content,
  every target path `p` and every temp path `t ≠ p`, and over `outcomes`: every way a run can end
  (killed before / inside / after any call - inside a write at ANY byte offset -, any call failing after
  any short write, clean-up calls killed or failing).

  Outside the model (assumed of the kernel): a failed or killed `write` leaves a prefix of its data;
  every other call is all-or-nothing; `rename` within one directory is atomic.  Durability across power
  loss (directory fsync) is not claimed.
-/
namespace Wtf.C09
open Wtf.AtomicWrite

set_option linter.unusedSectionVars false
variable {π : Type} [DecidableEq π]

abbrev genProg (t p : π) (new : Bytes) : Prog π := instantiate Wtf.Gen.AtomicWrite.writeFileAtomic t p new

/-- The code has the shape the theorems are about: CreateTemp → Write → Chmod → Sync → Close → Rename,
    every error tested, Close+Remove (then Remove alone) on the error paths. -/
theorem shape (t p : π) (new : Bytes) : genProg t p new = atomicProg t p new := rfl

/-- Both writers go through WriteFileAtomic and make no direct write; the temp file lives in the
    target's directory (so the rename stays inside one file system). -/
theorem call_sites :
    Wtf.Gen.AtomicWrite.notebookUsesAtomic = true ∧ Wtf.Gen.AtomicWrite.notebookDirectWrites = [] ∧
    Wtf.Gen.AtomicWrite.historyUsesAtomic = true ∧ Wtf.Gen.AtomicWrite.historyDirectWrites = [] ∧
    Wtf.Gen.AtomicWrite.tempInTargetDir = true := by decide

/-! splitting the program: everything before the rename avoids `p` -/

private def pre (t : π) (new : Bytes) : Prog π :=
  [ ⟨.createTemp t, true, []⟩,
    ⟨.write t new, true, [.close t, .unlink t]⟩,
    ⟨.chmod t, true, [.close t, .unlink t]⟩,
    ⟨.fsync t, true, [.close t, .unlink t]⟩,
    ⟨.close t, true, [.unlink t]⟩ ]

private theorem split (t p : π) (new : Bytes) : genProg t p new = pre t new ++ [⟨.rename t p, true, [.unlink t]⟩] := rfl

private theorem pre_checked (t : π) (new : Bytes) : AllChecked (pre t new) := by
  intro s hs; simp [pre] at hs; rcases hs with rfl | rfl | rfl | rfl | rfl <;> rfl

private theorem pre_avoids (t q : π) (new : Bytes) (h : t ≠ q) : Avoids q (pre t new) := by
  simp [pre, avoids_cons, avoids_nil, touches, h]

private theorem pre_run_t (fs : Fs π) (t : π) (new : Bytes) :
    read (runAll fs ((pre t new).map (·.op))) t = some new := by
  simp [pre, runAll, apply, read_put]

/-- every run of WriteFileAtomic: not successful and the target untouched, or successful, no call failed,
    the target complete and the temp name gone -/
theorem run_cases (fs : Fs π) (t p : π) (new : Bytes) (h : t ≠ p) :
    ∀ r ∈ outcomes fs false (genProg t p new),
      (r.out ≠ .success ∧ read r.fs p = read fs p) ∨
      (r.out = .success ∧ r.failed = false ∧ read r.fs p = some new ∧ read r.fs t = none) := by
  rw [split]
  exact rename_protocol h (pre_checked t new) (pre_avoids t p new h) (by simp [touches, h]) (pre_run_t fs t new)

/-- **Atomicity.**  However the run ends, the target holds its complete previous content (or is still
    missing) or the complete new content. -/
theorem atomic (fs : Fs π) (t p : π) (new : Bytes) (h : t ≠ p) :
    ∀ r ∈ outcomes fs false (genProg t p new), read r.fs p = read fs p ∨ read r.fs p = some new :=
  fun r hr => (run_cases fs t p new h r hr).imp (·.2) (·.2.2.1)

/-- The same for the kill-only reading of the call sequence (the form the strace-derived check uses):
    stopping before/after any call or inside the write at any byte offset. -/
theorem atomic_crash (fs : Fs π) (t p : π) (new : Bytes) (h : t ≠ p) :
    ∀ f ∈ crashStates fs ((genProg t p new).map (·.op)), read f p = read fs p ∨ read f p = some new := by
  intro f hf
  obtain ⟨r, hr, rfl⟩ := crashStates_sub_outcomes false hf
  exact atomic fs t p new h r hr

/-- **The program shape matters.**  For the in-place program (open with O_TRUNC, write, close - what
    os.WriteFile does) there are cut points after which the file is neither old nor new: killed inside
    the write, and also when the write *fails* and the error is duly reported. -/
theorem inplace_unsafe :
    ∃ (fs : Fs Nat) (new : Bytes) (r : Result Nat), r ∈ outcomes fs false (inplaceProg 0 new) ∧
      r.out = .killed ∧ read r.fs 0 ≠ read fs 0 ∧ read r.fs 0 ≠ some new :=
  ⟨[(0, [1, 2])], [3, 4], ⟨[(0, [3])], .killed, false⟩, by decide +kernel⟩

theorem inplace_unsafe_reported :
    ∃ (fs : Fs Nat) (new : Bytes) (r : Result Nat), r ∈ outcomes fs false (inplaceProg 0 new) ∧
      r.out = .reportedError ∧ read r.fs 0 ≠ read fs 0 ∧ read r.fs 0 ≠ some new :=
  ⟨[(0, [1, 2])], [3, 4], ⟨[(0, [3])], .reportedError, true⟩, by decide +kernel⟩

/-- **Failure is reported, and then nothing changed.**  A run in which some call failed never ends in
    success (it ends in `reportedError`, or the process was killed during clean-up), and the target is
    exactly what it was. -/
theorem reports (fs : Fs π) (t p : π) (new : Bytes) (h : t ≠ p) :
    ∀ r ∈ outcomes fs false (genProg t p new), r.failed = true →
      r.out ≠ .success ∧ read r.fs p = read fs p := by
  intro r hr hf
  rcases run_cases fs t p new h r hr with h1 | h1
  · exact h1
  · rw [h1.2.1] at hf; cases hf

/-- an error is reported only when the target is untouched -/
theorem reported_error_means_unchanged (fs : Fs π) (t p : π) (new : Bytes) (h : t ≠ p) :
    ∀ r ∈ outcomes fs false (genProg t p new), r.out = .reportedError → read r.fs p = read fs p := by
  intro r hr ho
  rcases run_cases fs t p new h r hr with h1 | h1
  · exact h1.2
  · rw [h1.1] at ho; cases ho

/-- **No success without effect.**  If the run went on to report success, the target holds the complete
    new content and no call failed. -/
theorem no_success_without_effect (fs : Fs π) (t p : π) (new : Bytes) (h : t ≠ p) :
    ∀ r ∈ outcomes fs false (genProg t p new), r.out = .success →
      read r.fs p = some new ∧ r.failed = false := by
  intro r hr ho
  rcases run_cases fs t p new h r hr with h1 | h1
  · exact absurd ho h1.1
  · exact ⟨h1.2.2.1, h1.2.1⟩

/-- **Everything saved earlier stays loadable.**  `loads` is any predicate on file contents (the YAML /
    JSON decoder succeeding and yielding the earlier entries): if the previous content and the new
    content satisfy it, so does the content after any outcome.  (A target that was missing stays missing
    or becomes the new content; loaders treat a missing file as empty.) -/
theorem earlier_loadable (loads : Bytes → Prop) (fs : Fs π) (t p : π) (new : Bytes) (h : t ≠ p)
    (hold : ∀ old, read fs p = some old → loads old) (hnew : loads new) :
    ∀ r ∈ outcomes fs false (genProg t p new),
      (read fs p = none → read r.fs p = none ∨ read r.fs p = some new) ∧
      (∀ b, read r.fs p = some b → loads b) := by
  intro r hr
  rcases atomic fs t p new h r hr with h1 | h1
  · exact ⟨fun hn => Or.inl (by rw [h1, hn]), fun b hb => hold b (by rw [← h1, hb])⟩
  · exact ⟨fun _ => Or.inr h1, fun b hb => by rw [h1] at hb; cases hb; exact hnew⟩

/-- **What may be left behind.**  Nothing but the target and the temp file is ever touched; after a
    reported success the temp name is gone.  (After a kill, or when the clean-up's own unlink fails, a
    stray temp file with a prefix of the data can remain - `temp_garbage_possible`.) -/
theorem temp_left_behind (fs : Fs π) (t p : π) (new : Bytes) (h : t ≠ p) :
    ∀ r ∈ outcomes fs false (genProg t p new),
      (∀ q, q ≠ t → q ≠ p → read r.fs q = read fs q) ∧ (r.out = .success → read r.fs t = none) := by
  intro r hr
  constructor
  · intro q hqt hqp
    have hav : Avoids q (genProg t p new) := by
      rw [split, avoids_append]
      exact ⟨pre_avoids t q new (Ne.symm hqt), by simp [avoids_cons, avoids_nil, touches, Ne.symm hqt, Ne.symm hqp]⟩
    exact outcomes_frame hav hr
  · intro ho
    rcases run_cases fs t p new h r hr with h1 | h1
    · exact absurd ho h1.1
    · exact h1.2.2.2

theorem temp_garbage_possible :
    ∃ (fs : Fs Nat) (new : Bytes) (r : Result Nat), r ∈ outcomes fs false (genProg 1 0 new) ∧
      r.out = .killed ∧ read fs 1 = none ∧ read r.fs 1 = some [3] :=
  ⟨[(0, [1, 2])], [3, 4], ⟨[(1, [3]), (0, [1, 2])], .killed, false⟩, by decide +kernel⟩

/-- The temp file never has the target's name: its name is the target's base name followed by the
    regenerated, non-empty infix and the random part. -/
theorem temp_name_ne_target (base rnd : List Char) :
    base ++ Wtf.Gen.AtomicWrite.tempInfix.toList ++ rnd ≠ base := by
  intro h
  have hl := congrArg List.length h
  have : 0 < Wtf.Gen.AtomicWrite.tempInfix.toList.length := by decide
  simp only [List.length_append] at hl
  omega

/-! ### Non-vacuity: the outcome set is rich, and both alternatives of `atomic` occur -/

example : (outcomes ([(0, [1, 2])] : Fs Nat) false (genProg 1 0 [3, 4])).length = 52 := by decide +kernel

/-- old content survives a kill inside the write (temp holds a prefix) -/
example : (⟨[(1, [3]), (0, [1, 2])], .killed, false⟩ : Result Nat) ∈ outcomes [(0, [1, 2])] false (genProg 1 0 [3, 4]) := by decide +kernel
/-- the successful run installs the new content and removes the temp name -/
example : (⟨[(0, [3, 4])], .success, false⟩ : Result Nat) ∈ outcomes [(0, [1, 2])] false (genProg 1 0 [3, 4]) := by decide +kernel
/-- a failed write is reported and cleaned up -/
example : (⟨[(0, [1, 2])], .reportedError, true⟩ : Result Nat) ∈ outcomes [(0, [1, 2])] false (genProg 1 0 [3, 4]) := by decide +kernel
/-- a missing target stays missing when the rename fails -/
example : ∃ r ∈ outcomes ([] : Fs Nat) false (genProg 1 0 [3, 4]), r.out = .reportedError ∧ read r.fs 0 = none := by decide +kernel
/-- the planned-fault run used by the correspondence is one of the outcomes -/
example (fs : Fs π) (t p : π) (new : Bytes) (i k : Nat) (hk : PlanOk (genProg t p new) i k) :
    runPlan fs false (genProg t p new) (some (i, k)) ∈ outcomes fs false (genProg t p new) :=
  runPlan_mem _ fs false i k hk

end Wtf.C09
