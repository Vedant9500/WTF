import WtfModel.Gen.Sites
import WtfModel.Proofs.SearchBasic

/-!
  C02 — same database, query and options always give the same ranked answer.

  In a Go function that starts no goroutine and touches no clock, random source or channel, the only
  source of run-to-run variation is the iteration order of maps (`sort.Slice` is unstable but
  deterministic).  The translator re-derives on every run the table of map-range / sort sites reachable
  from the search, suggestion, load and metric-key entry points (`Gen.Sites`), with a conservative
  classification.  This file proves (a) that table is clean, and (b) the fact that makes a "repaired" site
  harmless: sorting an enumeration of a map's keys by a total antisymmetric order gives the same list
  whatever order the enumeration came in — which is why the model (`Model/Search.lean`) walks score
  maps, vocabularies and suggestion words in canonical order and takes no schedule argument.
-/
namespace Wtf.C02
open Wtf.Gen.Sites Wtf.Search

/-- no map range on the search / suggestion / load / metric-key paths depends on iteration order -/
theorem sites_clean : sites.all (fun s => s.cls != Class.sensitive) = true := by decide

/-- no goroutine, channel operation, clock or random source on those paths -/
theorem no_other_nondeterminism : otherNondet = [] := by decide

/-- every sort on those paths is stable (so ties keep the deterministic input order, as in the model) -/
theorem sorts_stable : sites.all (fun s => s.cls != Class.unstable) = true := by decide

/-- Sorting removes the dependence on enumeration order: two enumerations of the same key set
    (permutations of each other), sorted by a total, transitive, antisymmetric order, coincide. -/
theorem sorted_enumeration_unique {α : Type} (le : α → α → Bool)
    (trans : ∀ a b c, le a b → le b c → le a c) (total : ∀ a b, le a b || le b a)
    (antisymm : ∀ a b, le a b → le b a → a = b) (l₁ l₂ : List α) (h : l₁.Perm l₂) :
    l₁.mergeSort le = l₂.mergeSort le :=
  mergeSort_eq_of_perm trans total antisymm h

/-- document ids / term indices (`sort.Ints`) -/
theorem sort_ints_sched_indep (ks₁ ks₂ : List Nat) (h : ks₁.Perm ks₂) :
    ks₁.mergeSort (fun a b => decide (a ≤ b)) = ks₂.mergeSort (fun a b => decide (a ≤ b)) :=
  sorted_enumeration_unique (fun a b => decide (a ≤ b)) (fun _ _ _ h1 h2 => decide_eq_true (Nat.le_trans (of_decide_eq_true h1) (of_decide_eq_true h2)))
    (fun a b => by simpa using Nat.le_total a b)
    (fun _ _ h1 h2 => Nat.le_antisymm (of_decide_eq_true h1) (of_decide_eq_true h2)) ks₁ ks₂ h

/-- collectResults: whatever order the runtime enumerates the score map in, the sorted id list is the
    model's canonical key list (the score map's keys, strictly increasing). -/
theorem collect_sched_indep {S : Type} (m : List (Nat × S)) (hm : KeysSorted m) (σ : List Nat)
    (hσ : σ.Perm (m.map (·.1))) : σ.mergeSort (fun a b => decide (a ≤ b)) = m.map (·.1) := by
  rw [sort_ints_sched_indep σ _ hσ]
  exact List.mergeSort_of_pairwise (hm.imp (fun h => by simpa using Nat.le_of_lt h))

/-- The model's search is a function: same tuning, database, query and options ⇒ same answer
    (there is no schedule argument to vary; `sites_clean` is what licenses that modelling decision). -/
theorem search_function {S : Type} [ScoreOps S] (T : Tuning S) (db db' : Db) (q q' : Bytes) (o : Opts S)
    (hdb : db = db') (hq : q = q') : search T db q o = search T db' q' o := by subst hdb hq; rfl

/-! Non-vacuity: two different enumerations of a three-key map sort to the same list. -/
example : [3, 1, 2].mergeSort (fun a b => decide (a ≤ b)) = [2, 3, 1].mergeSort (fun a b => decide (a ≤ b)) :=
  sort_ints_sched_indep _ _ (by decide)
/-- why the sort matters: without it the two enumerations are different lists -/
example : ([3, 1, 2] : List Nat) ≠ [2, 3, 1] := by decide

end Wtf.C02
