import WtfModel.Props.C01c
/-
  C01 — `universal_modelled_sorted` with the similarity floor of the source.

  `Gen.LegacyScore.tfidfMinSim` is the literal in `if similarity > <floor>` of `TFIDFSearcher.Search`, regenerated on every run
  (nothing depends on the value, so a re-tuned floor keeps the correspondence: tunings2/T03).  The driver runs with
  `ofQ tfidfMinSim`; the theorem below is `universal_modelled_sorted` at that value,
  its `minSim ≥ 0` hypothesis discharged by evaluating the sign of the regenerated literal.  Left: `idf n df ≥ 0` for `df ≤ n`
  (Props/C01d: holds for the source's formula over the reals).
-/
namespace Wtf.C01
open Wtf.Search ScoreOps ScoreLaws

variable {S : Type} [ScoreOps S] [ScoreLaws S]

/-- the regenerated similarity floor is not negative -/
theorem source_floor_nonneg : Nonneg (ofQ Gen.LegacyScore.tfidfMinSim : S) :=
  ofQ_nonneg _ (by decide) (by decide)

/-- **C01, SearchUniversal over every modelled layer, at the source's similarity floor**: one hypothesis left -/
theorem universal_modelled_source_floor (idf : Nat → Nat → S) (host : Bytes) (ri : RuneInfo) (normQ : Bytes → Bytes)
    (sqrt : S → S) (idx? : Option (Tfidf.Index S)) (db : Db)
    (hidf : ∀ n df, df ≤ n → lt (idf n df) (zero : S) = false)
    (q : Bytes) (o : Opts S) (r : List (Nat × S))
    (h : search (modelledTuning idf host ri normQ GoSort.fuzzyStable sqrt (ofQ Gen.LegacyScore.tfidfMinSim) idx? db) db q o = .ok r) :
    r.length ≤ effLimit o ∧ (∀ x ∈ r, x.1 < db.length) ∧ (r.map (·.1)).Nodup ∧
    r.Pairwise (fun a b => lt a.2 b.2 = false) ∧ (∀ x ∈ r, Nonneg x.2) :=
  universal_modelled_sorted idf host ri normQ sqrt _ idx? db hidf source_floor_nonneg q o r h

end Wtf.C01
