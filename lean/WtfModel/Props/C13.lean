import WtfModel.Proofs.C13TwoRuns
import WtfModel.Proofs.C13Context
import WtfModel.Proofs.ScoreField
import WtfModel.Proofs.Boosts

/-!
  C13 — project context only re-ranks, in favour of commands that mention it.
  Property theorems, the table facts they rest on and their non-vacuity examples (helper lemmas live in Proofs/C13*.lean).

  Engine half: `search` is the model of `SearchUniversal` (validated bit for bit against the real code
  by the `search` correspondence domain, also on the paired stream `c13`).  Statements hold for every
  score type satisfying `ScoreLaws` (every linearly ordered field: `Proofs/ScoreField.lean`), every
  database, query, option record (NLP on or off, fuzzy on or off, every limit unless stated), every
  boost map and every value of the parameters `T` subject to the named hypotheses.
-/
namespace Wtf.C13
open Wtf.Text Wtf.Index Wtf.Search ScoreOps ScoreLaws

section engine
variable {S : Type} [ScoreOps S]

/-- **Same candidates whenever the limit does not cut them**: it is enough that the limit is at least the number of
    scored documents (not the size of the database) -/
theorem same_candidates_uncut (T : Tuning S) (db : Db) (q : Bytes) (o : Opts S) (B B' : List (Bytes × S))
    (hlim : (scoresOf T db q (withBoosts o B)).length ≤ effLimit o) :
    (∀ e, search T db q (withBoosts o B) = .error e ↔ search T db q (withBoosts o B') = .error e) ∧
    (∀ rB r0, search T db q (withBoosts o B) = .ok rB → search T db q (withBoosts o B') = .ok r0 →
      (ids rB).Perm (ids r0) ∧ ∀ d, d ∈ ids rB ↔ d ∈ ids r0) := by
  rcases search_two_runs T db q o B B' with h | ⟨h1, h2⟩
  · rw [h]
    refine ⟨fun _ => Iff.rfl, ?_⟩
    intro rB r0 e1 e2
    rw [e1] at e2; cases e2
    exact ⟨List.Perm.refl _, fun _ => Iff.rfl⟩
  · rw [h1, h2]
    refine ⟨fun e => ⟨fun h => (by cases h), fun h => (by cases h)⟩, ?_⟩
    intro rB r0 e1 e2
    cases e1; cases e2
    have p := lexAnswer_same_ids T db q o B B' hlim
    exact ⟨p, fun d => p.mem_iff⟩

/-- **Context boosts never add or remove a candidate.**  With a limit that does not cut
    (`|db| ≤ limit`, the way the property compares the sets), the answers of the same request under any
    two boost maps `B`, `B'` (in particular `B' = []`: no context) list the same documents — as
    multisets, hence as sets —, and one run fails (the typo matcher's index panic, C10) exactly when the
    other does, with the same error.  NLP on or off, fuzzy fallback on or off. -/
theorem same_candidates (T : Tuning S) (db : Db) (q : Bytes) (o : Opts S) (B B' : List (Bytes × S))
    (hlim : db.length ≤ effLimit o) :
    (∀ e, search T db q (withBoosts o B) = .error e ↔ search T db q (withBoosts o B') = .error e) ∧
    (∀ rB r0, search T db q (withBoosts o B) = .ok rB → search T db q (withBoosts o B') = .ok r0 →
      (ids rB).Perm (ids r0) ∧ ∀ d, d ∈ ids rB ↔ d ∈ ids r0) :=
  same_candidates_uncut T db q o B B' (Nat.le_trans (scores_length_le (scoresOf_inv T db q o B)) hlim)

/-- The candidate keys themselves (before any truncation) never depend on the boosts, at every limit. -/
theorem candidates_indep_boosts (T : Tuning S) (db : Db) (q : Bytes) (o : Opts S) (B B' : List (Bytes × S)) :
    ids (scoresOf T db q (withBoosts o B)) = ids (scoresOf T db q (withBoosts o B')) :=
  scoresOf_keys T db q o B B'

variable [ScoreLaws S]

/-- **The scores are monotone in the boost map**: if the map `B` dominates `B'` word by word (`TbRel`), every document
    returned under both has a score under `B` that is not below its score under `B'` -/
theorem monotone_in_boosts (T : Tuning S) (db : Db) (q : Bytes) (o : Opts S) (hP : ParamsSane T.params)
    (hib : ∀ nq d, Nonneg ((T.nlp nq).intentBoost d)) (hcb : ∀ nq d, Nonneg ((T.nlp nq).cascade d))
    {B B' : List (Bytes × S)} (hB : TbRel B B')
    {rB r0 : List (Nat × S)} (h1 : search T db q (withBoosts o B) = .ok rB) (h2 : search T db q (withBoosts o B') = .ok r0)
    {d : Nat} {sB s0 : S} (hdB : scoreOf rB d = some sB) (hd0 : scoreOf r0 d = some s0) : ge sB s0 :=
  search_rel T db q o B B' (E := fun _ a b => ge a b) (fun _ s => ge_refl s) (scoresOf_ge T db q o hP hB)
    (fun k d c _ _ hab => postScore_mono T _ _ _ k d c
      (fun _ hn => pqOf_eq_some hn ▸ hib _ _) (fun _ hn => pqOf_eq_some hn ▸ hcb _ _) hab)
    h1 h2 hdB hd0

/-- **Boosting never lowers a score.**  If every factor in `B` is ≥ 1, every document returned both with
    and without the boosts (any limit, NLP on or off) has a score with boosts that is not below its score
    without.  Hypotheses: BM25F parameters sane (`genParams_sane` discharges it for the regenerated
    `defaultParams()`), and the per-document NLP factors are non-negative (`calculateIntentBoost` and the
    cascading boost are products/sums of positive constants; the `search` correspondence feeds and the
    C13 monitor checks the real values). -/
theorem monotone (T : Tuning S) (db : Db) (q : Bytes) (o : Opts S) (hP : ParamsSane T.params)
    (hib : ∀ nq d, Nonneg ((T.nlp nq).intentBoost d)) (hcb : ∀ nq d, Nonneg ((T.nlp nq).cascade d))
    (B : List (Bytes × S)) (hB : ∀ p ∈ B, ge p.2 one)
    {rB r0 : List (Nat × S)} (h1 : search T db q (withBoosts o B) = .ok rB) (h2 : search T db q (withBoosts o []) = .ok r0)
    {d : Nat} {sB s0 : S} (hdB : scoreOf rB d = some sB) (hd0 : scoreOf r0 d = some s0) : ge sB s0 :=
  monotone_in_boosts T db q o hP hib hcb (tbRel_base B hB) h1 h2 hdB hd0

/-- the clause as the property words it: a command that contains a boosted query word is not ranked lower
    in score (a corollary: *no* returned command is) -/
theorem monotone_containing (T : Tuning S) (db : Db) (q : Bytes) (o : Opts S) (hP : ParamsSane T.params)
    (hib : ∀ nq d, Nonneg ((T.nlp nq).intentBoost d)) (hcb : ∀ nq d, Nonneg ((T.nlp nq).cascade d))
    (B : List (Bytes × S)) (hB : ∀ p ∈ B, ge p.2 one)
    {rB r0 : List (Nat × S)} (h1 : search T db q (withBoosts o B) = .ok rB) (h2 : search T db q (withBoosts o []) = .ok r0)
    {d : Nat} {c : Cmd} (_hc : db[d]? = some c) {w : Token} (_hw : w ∈ B.map (·.1)) (_hq : w ∈ queryTerms T db q o)
    (_hcw : containsTerm c w = true)
    {sB s0 : S} (hdB : scoreOf rB d = some sB) (hd0 : scoreOf r0 d = some s0) : ge sB s0 :=
  monotone T db q o hP hib hcb B hB h1 h2 hdB hd0

end engine

section engine2
variable {S : Type} [ScoreOps S]

/-- **A document's score depends only on the boosts of the query words it contains**: two boost maps that agree on
    every query term occurring in the indexed text of document `d` give `d` the same score -/
theorem score_congr (T : Tuning S) (db : Db) (q : Bytes) (o : Opts S) (B B' : List (Bytes × S))
    {rB r0 : List (Nat × S)} (h1 : search T db q (withBoosts o B) = .ok rB) (h2 : search T db q (withBoosts o B') = .ok r0)
    {d : Nat} (hd : ∀ w ∈ queryTerms T db q o, look B w ≠ look B' w → ∀ c, db[d]? = some c → containsTerm c w = false)
    {sB s0 : S} (hdB : scoreOf rB d = some sB) (hd0 : scoreOf r0 d = some s0) : sB = s0 :=
  search_rel T db q o B B' (E := fun d' a b => d' = d → a = b) (fun _ _ _ => rfl)
    (scoresOf_eqAt T db q o B B' d hd)
    (fun _ _ _ _ _ hab hd => by rw [hab hd]) h1 h2 hdB hd0 rfl

/-- **Boosting a word never changes the score of a command that does not contain it.**  If no boosted
    word that is among the query's terms occurs in the indexed text (command, description, keywords,
    tags) of document `d`, then `d`'s score with the boosts equals its score without — syntactically the
    same computation, no hypothesis on factors or parameters, NLP on or off (a boosted word that is also
    an NLP action/target changes only the weight of *its own* postings). -/
theorem untouched (T : Tuning S) (db : Db) (q : Bytes) (o : Opts S) (B : List (Bytes × S))
    {rB r0 : List (Nat × S)} (h1 : search T db q (withBoosts o B) = .ok rB) (h2 : search T db q (withBoosts o []) = .ok r0)
    {d : Nat} (hd : ∀ w ∈ B.map (·.1), w ∈ queryTerms T db q o → ∀ c, db[d]? = some c → containsTerm c w = false)
    {sB s0 : S} (hdB : scoreOf rB d = some sB) (hd0 : scoreOf r0 d = some s0) : sB = s0 :=
  score_congr T db q o B [] h1 h2
    (fun w hw hne => hd w (Decidable.byContradiction fun hk => hne ((look_eq_none_iff _ _).mpr hk)) hw) hdB hd0

end engine2

/-! ### non-vacuity of the engine clauses: a concrete database over ℚ -/
section example_engine

local instance : ScoreOps ℚ := fieldScoreOps ℚ
local instance : ScoreLaws ℚ := fieldScoreLaws ℚ

private def bs (s : String) : Bytes := Bytes.ofString s
private def mk (c d : String) : Cmd :=
  { command := bs c, description := bs d, keywords := [], tags := [], niche := [], platform := [], pipeline := false,
    commandLower := bs c, descriptionLower := bs d, keywordsLower := [], tagsLower := [] }
/-- three commands; the query is "git archive"; the context boosts the word "git" by 2 -/
private def exDb : Db := [mk "git archive" "git archive", mk "git commit" "record changes", mk "tar archive" "compress files"]
/-- fixed parameter values for the example (those of the source when it was written): the example is a witness over the
    model and must not depend on the regenerated constants, so that re-tuning `defaultParams()` leaves it alone -/
private def exP : Params ℚ :=
  { k1 := ofQ ⟨6, 5⟩, bCmd := ofQ ⟨3, 4⟩, bDesc := ofQ ⟨3, 4⟩, bKeys := ofQ ⟨7, 10⟩, bTags := ofQ ⟨7, 10⟩,
    wCmd := ofQ ⟨7, 2⟩, wDesc := ofQ ⟨1, 1⟩, wKeys := ofQ ⟨2, 1⟩, wTags := ofQ ⟨6, 5⟩, minIDF := ofQ ⟨0, 1⟩ }
private theorem exP_sane : ParamsSane exP where
  k1 := ofQ_nonneg _ (by decide) (by decide)
  wCmd := ofQ_pos _ (by decide) (by decide)
  wDesc := ofQ_pos _ (by decide) (by decide)
  wKeys := ofQ_pos _ (by decide) (by decide)
  wTags := ofQ_pos _ (by decide) (by decide)
  bCmd0 := ofQ_nonneg _ (by decide) (by decide)
  bDesc0 := ofQ_nonneg _ (by decide) (by decide)
  bKeys0 := ofQ_nonneg _ (by decide) (by decide)
  bTags0 := ofQ_nonneg _ (by decide) (by decide)
  bCmd1 := ofQ_le_one _ (by decide) (by decide)
  bDesc1 := ofQ_le_one _ (by decide) (by decide)
  bKeys1 := ofQ_le_one _ (by decide) (by decide)
  bTags1 := ofQ_le_one _ (by decide) (by decide)
  minIDF := ofQ_nonneg _ (by decide) (by decide)
private def exT : Tuning ℚ where
  params := exP
  idf := fun n df => (((n - df : Nat) : ℚ) + 1) / ((df : ℚ) + 1)
  host := bs "linux"
  ri := {}
  normQ := id
  nlp := fun _ => { intentBoost := fun _ => 1, cascade := fun _ => 1 }
  tfidf := none
  fuzzySort := id
private def exO : Opts ℚ := { limit := 10, pipelineBoost := 0 }
private def exB : List (Bytes × ℚ) := [(bs "git", 2)]
private def exQ : Bytes := bs "git archive"

private def exWith : List (Nat × ℚ) := [(0, 248/47), (1, 308/141), (2, 154/141)]
private def exWithout : List (Nat × ℚ) := [(0, 496/141), (1, 154/141), (2, 154/141)]

/-- what the two answers below rest on, in one statement: the kernel builds the index of `exDb` once for both runs
    (and for the last clause, which the example of the hypotheses uses) -/
private theorem exRuns :
    (Search.scoresOf exT exDb exQ (withBoosts exO exB) = exWith ∧ collect exT exDb (withBoosts exO exB) none exWith = exWith) ∧
    (Search.scoresOf exT exDb exQ (withBoosts exO []) = exWithout ∧ collect exT exDb (withBoosts exO []) none exWithout = exWithout) ∧
    containsTerm (mk "tar archive" "compress files") (bs "git") = false := by
  decide +kernel

/-- the answer with the boost … -/
theorem example_with : search exT exDb exQ (withBoosts exO exB) = .ok [(0, 248/47), (1, 308/141), (2, 154/141)] :=
  search_nlpOff_of_sorted exT exDb exQ (withBoosts exO exB) rfl exWith exWith
    exRuns.1.1 rfl exRuns.1.2 (by decide +kernel)

/-- … and without: same three candidates; "git commit" (contains the boosted word) strictly higher with the
    boost, "tar archive" (does not contain it) unchanged -/
theorem example_without : search exT exDb exQ (withBoosts exO []) = .ok [(0, 496/141), (1, 154/141), (2, 154/141)] :=
  search_nlpOff_of_sorted exT exDb exQ (withBoosts exO []) rfl exWithout exWithout
    exRuns.2.1.1 rfl exRuns.2.1.2 (by decide +kernel)

example : (308 : ℚ)/141 > 154/141 := by decide +kernel

private theorem one_nn : Nonneg (1 : ℚ) := by decide +kernel

/-- the hypotheses of `monotone` and `untouched` are satisfiable together: instantiated on the example -/
example : ParamsSane exT.params ∧ (∀ nq d, Nonneg ((exT.nlp nq).intentBoost d)) ∧ (∀ nq d, Nonneg ((exT.nlp nq).cascade d)) ∧
    (∀ p ∈ exB, ge p.2 (one : ℚ)) ∧ exDb.length ≤ effLimit exO ∧
    (∀ w ∈ exB.map (·.1), w ∈ queryTerms exT exDb exQ exO → ∀ c, exDb[2]? = some c → containsTerm c w = false) := by
  refine ⟨exP_sane, fun _ _ => one_nn, fun _ _ => one_nn, by decide +kernel, by decide, ?_⟩
  intro w hw _ c hc
  obtain rfl : w = bs "git" := by simpa [exB] using hw
  cases (show some (mk "tar archive" "compress files") = some c from hc)
  exact exRuns.2.2

example : ge ((308 : ℚ)/141) (154/141) :=
  monotone exT exDb exQ exO exP_sane (fun _ _ => one_nn) (fun _ _ => one_nn) exB (by decide +kernel)
    example_with example_without (d := 1) (by decide +kernel) (by decide +kernel)

end example_engine

/-! ## Analyzer half

  `Context.analyze ri listing pkg mkText` is the model of `AnalyzeDirectory` on a readable directory
  whose entries are `listing` (validated against the real analyzer on generated directories by the
  `context` correspondence domain); it evaluates the rule table `Gen.Context.rules` regenerated from the
  `check*` functions on every run, so the statements below are re-checked against the current source.
-/
section analyzer
open Wtf.Context

/-- table fact (re-checked by `decide` on every regeneration): no marker rule appends the fallback type -/
theorem generic_fresh : GenericFresh Gen.Context.rules Gen.Context.genericType := by decide +kernel

/-- **Each project type is reported at most once**, for every listing (any combination and
    repetition of names) and any package.json / Makefile contents. -/
theorem types_nodup (ri : RuneInfo) (listing : List Bytes) (pkg : Option (List Bytes)) (mkText : Bytes → Option Bytes) :
    (analyze ri listing pkg mkText).types.Nodup :=
  analyzeWith_types_nodup

/-- **'generic' exactly when nothing is recognised**: the reported types are `[generic]` iff no rule of
    the regenerated table fires on any listed name … -/
theorem generic_iff (ri : RuneInfo) (listing : List Bytes) (pkg : Option (List Bytes)) (mkText : Bytes → Option Bytes) :
    (analyze ri listing pkg mkText).types = [Gen.Context.genericType] ↔
      ∀ name ∈ listing, Quiet Gen.Context.rules name :=
  analyzeWith_generic_iff generic_fresh

/-- … and 'generic' never appears together with another type; the list is never empty. -/
theorem generic_alone (ri : RuneInfo) (listing : List Bytes) (pkg : Option (List Bytes)) (mkText : Bytes → Option Bytes) :
    (Gen.Context.genericType ∈ (analyze ri listing pkg mkText).types →
      (analyze ri listing pkg mkText).types = [Gen.Context.genericType]) ∧
    (analyze ri listing pkg mkText).types ≠ [] :=
  ⟨analyzeWith_generic_alone generic_fresh, analyzeWith_types_ne_nil⟩

/-- table fact: every entry of `projectBoosts` and the two literals for scripts / make targets are ≥ 1
    (a finite rational is finite: "finite" needs no separate clause) -/
theorem table_boosts_ge_one :
    (∀ e ∈ Gen.Context.projectBoosts, ∀ kv ∈ e.2, (kv.2.den : Int) ≤ kv.2.num ∧ 0 < kv.2.den) ∧
    ((Gen.Context.scriptBoost.den : Int) ≤ Gen.Context.scriptBoost.num ∧ 0 < Gen.Context.scriptBoost.den) ∧
    ((Gen.Context.targetBoost.den : Int) ≤ Gen.Context.targetBoost.num ∧ 0 < Gen.Context.targetBoost.den) := by decide +kernel

/-- **Only boosts of at least 1**: every value `GetContextBoosts` can return, for every context (any
    types, script names, make targets), is an exact rational `q` with `1 ≤ q`. -/
theorem boosts_ok (ctx : Ctx) : ∀ p ∈ contextBoosts ctx, (p.2.den : Int) ≤ p.2.num ∧ 0 < p.2.den :=
  contextBoostsWith_all (fun q => (q.den : Int) ≤ q.num ∧ 0 < q.den) _ _ _ table_boosts_ge_one.1 table_boosts_ge_one.2.1
    table_boosts_ge_one.2.2 ctx

/-- the boost map handed to the engine, in the engine's score type -/
def engineBoosts {S : Type} [ScoreOps S] (ctx : Ctx) : List (Bytes × S) := (contextBoosts ctx).map (fun p => (p.1, ofQ p.2))

/-- the two halves meet: the boosts of any detected context satisfy the hypothesis of `monotone` -/
theorem boosts_ok_scores {S : Type} [ScoreOps S] [ScoreLaws S] (ctx : Ctx) : ∀ p ∈ (engineBoosts ctx : List (Bytes × S)), ge p.2 one := by
  intro p hp
  unfold engineBoosts at hp
  obtain ⟨p0, hp0, rfl⟩ := List.mem_map.mp hp
  have := boosts_ok ctx p0 hp0
  exact ofQ_ge_one p0.2 this.1 this.2

/-- hence: the context detected in *any* directory never lowers the score of any returned command -/
theorem detected_context_never_lowers {S : Type} [ScoreOps S] [ScoreLaws S] (T : Tuning S) (db : Db) (q : Bytes) (o : Opts S)
    (hP : ParamsSane T.params) (hib : ∀ nq d, Nonneg ((T.nlp nq).intentBoost d)) (hcb : ∀ nq d, Nonneg ((T.nlp nq).cascade d))
    (ri : RuneInfo) (listing : List Bytes) (pkg : Option (List Bytes)) (mkText : Bytes → Option Bytes)
    {rB r0 : List (Nat × S)}
    (h1 : search T db q (withBoosts o (engineBoosts (analyze ri listing pkg mkText))) = .ok rB)
    (h2 : search T db q (withBoosts o []) = .ok r0)
    {d : Nat} {sB s0 : S} (hdB : scoreOf rB d = some sB) (hd0 : scoreOf r0 d = some s0) : ge sB s0 :=
  monotone T db q o hP hib hcb _ (boosts_ok_scores _) h1 h2 hdB hd0

/-- **Detection is a function of the listing**: `analyze` is a (total, terminating) Lean function of the
    names and the two files' contents, and what the code computes — `analyze` of the names in
    `os.ReadDir`'s order, sorted bytewise — depends only on the *set* (multiset) of entries. -/
theorem function_of_entries (ri : RuneInfo) {l1 l2 : List Bytes} (hp : l1.Perm l2) (pkg : Option (List Bytes))
    (mkText : Bytes → Option Bytes) : analyzeDir ri l1 pkg mkText = analyzeDir ri l2 pkg mkText := by
  unfold analyzeDir; rw [sortNames_perm_eq hp]

/-- The reported types as a *set* do not depend on the order in which the names are processed, nor on
    the contents of package.json / Makefile … -/
theorem listing_order (ri ri' : RuneInfo) {l1 l2 : List Bytes} (hp : l1.Perm l2) (pkg pkg' : Option (List Bytes))
    (mkText mkText' : Bytes → Option Bytes) (t : String) :
    t ∈ (analyze ri l1 pkg mkText).types ↔ t ∈ (analyze ri' l2 pkg' mkText').types := by
  unfold analyze
  -- membership in the reported types is a condition on the names alone (`mem_analyzeWith_types`)
  rw [mem_analyzeWith_types, mem_analyzeWith_types]
  simp only [hp.mem_iff]

/-- the vectors about the rule table below in one statement: the kernel evaluates the rule literals once for all -/
theorem analyzerVectors :
    ((analyze {} [Bytes.ofString "Dockerfile", Bytes.ofString "go.mod"] none (fun _ => none)).types = ["docker", "go"] ∧
     (analyze {} [Bytes.ofString "go.mod", Bytes.ofString "Dockerfile"] none (fun _ => none)).types = ["go", "docker"] ∧
     (Bytes.ofString "build", (⟨3, 2⟩ : Q)) ∈ contextBoosts (analyze {} [Bytes.ofString "Dockerfile", Bytes.ofString "go.mod"] none (fun _ => none)) ∧
     (Bytes.ofString "build", (⟨13, 10⟩ : Q)) ∈ contextBoosts (analyze {} [Bytes.ofString "go.mod", Bytes.ofString "Dockerfile"] none (fun _ => none))) ∧
    (analyze {} [Bytes.ofString "Dockerfile", Bytes.ofString "README.md", Bytes.ofString "docker-compose.yml"] none (fun _ => none)).types
      = ["docker"] ∧
    (analyze {} [Bytes.ofString "README.md", Bytes.ofString "Dockerfile.bak"] none (fun _ => none)).types = ["generic"] ∧
    Quiet Gen.Context.rules (Bytes.ofString "Dockerfile.bak") ∧
    ¬ Quiet Gen.Context.rules (Bytes.ofString "deploy-k8s.yaml") := by
  decide +kernel

/-- … but their *order*, and with it which value wins for a word two project types boost, does depend
    on it (so the canonical `os.ReadDir` order is part of the function): Dockerfile before go.mod gives
    `build ↦ 1.5` (go overrides docker), the other order gives `build ↦ 1.3`. -/
theorem order_matters :
    (analyze {} [Bytes.ofString "Dockerfile", Bytes.ofString "go.mod"] none (fun _ => none)).types = ["docker", "go"] ∧
    (analyze {} [Bytes.ofString "go.mod", Bytes.ofString "Dockerfile"] none (fun _ => none)).types = ["go", "docker"] ∧
    (Bytes.ofString "build", (⟨3, 2⟩ : Q)) ∈ contextBoosts (analyze {} [Bytes.ofString "Dockerfile", Bytes.ofString "go.mod"] none (fun _ => none)) ∧
    (Bytes.ofString "build", (⟨13, 10⟩ : Q)) ∈ contextBoosts (analyze {} [Bytes.ofString "go.mod", Bytes.ofString "Dockerfile"] none (fun _ => none)) :=
  analyzerVectors.1

/-! non-vacuity -/
example : (analyze {} [Bytes.ofString "Dockerfile", Bytes.ofString "README.md", Bytes.ofString "docker-compose.yml"] none (fun _ => none)).types
    = ["docker"] := analyzerVectors.2.1
example : (analyze {} [Bytes.ofString "README.md", Bytes.ofString "Dockerfile.bak"] none (fun _ => none)).types = ["generic"] := analyzerVectors.2.2.1
example : Quiet Gen.Context.rules (Bytes.ofString "Dockerfile.bak") := analyzerVectors.2.2.2.1
example : ¬ Quiet Gen.Context.rules (Bytes.ofString "deploy-k8s.yaml") := analyzerVectors.2.2.2.2
example : makeTargetsOf {} (Bytes.ofString "all: build\nA=b:c\n.PHONY: all\n# c: d\n\tgo build: x\nbuild :\n") =
    [Bytes.ofString "all", Bytes.ofString "go build", Bytes.ofString "build"] := by decide +kernel

end analyzer

/-! ### The NLP layer is modelled: `monotone` without hypotheses about the NLP factors

  `Boosts.nlpOut ri db nq` is the model of the NLP analysis and of `calculateIntentBoost` / `calculateBoostForCommand`
  (Model/Boosts.lean; literals regenerated into `Gen/Boosts.lean` on every run, validated bit for bit by the `boosts`
  correspondence domain, and the search driver runs with it).  Its factors are proved positive / at least 1
  (`Proofs/Boosts.lean`), which discharges `hib` and `hcb`. -/

section engine_modelled
variable {S : Type} [ScoreOps S] [ScoreLaws S]

/-- the two factor hypotheses of `monotone` hold for every parameter set whose NLP layer is the modelled one -/
theorem modelled_nlp_factors_nonneg (T : Tuning S) (db : Db) (hnlp : T.nlp = Boosts.nlpOut T.ri db) :
    (∀ nq d, Nonneg ((T.nlp nq).intentBoost d)) ∧ (∀ nq d, Nonneg ((T.nlp nq).cascade d)) := by
  constructor
  · intro nq d; rw [hnlp]; exact (Boosts.nlpOut_factorsNonneg T.ri db nq d).1
  · intro nq d; rw [hnlp]; exact (Boosts.nlpOut_factorsNonneg T.ri db nq d).2

/-- **Boosting never lowers a score, with the modelled NLP layer**: only the BM25F parameters (discharged for the source by
    `genParams_sane`) and the factors of the boost map (`≥ 1`: `boosts_ok_scores`) are assumed -/
theorem monotone_modelled_nlp (T : Tuning S) (db : Db) (hnlp : T.nlp = Boosts.nlpOut T.ri db) (q : Bytes) (o : Opts S)
    (hP : ParamsSane T.params) (B : List (Bytes × S)) (hB : ∀ p ∈ B, ge p.2 one)
    {rB r0 : List (Nat × S)} (h1 : search T db q (withBoosts o B) = .ok rB) (h2 : search T db q (withBoosts o []) = .ok r0)
    {d : Nat} {sB s0 : S} (hdB : scoreOf rB d = some sB) (hd0 : scoreOf r0 d = some s0) : ge sB s0 :=
  monotone T db q o hP (modelled_nlp_factors_nonneg T db hnlp).1 (modelled_nlp_factors_nonneg T db hnlp).2 B hB h1 h2 hdB hd0

/-- the clause as the property words it, with the modelled NLP layer -/
theorem monotone_containing_modelled_nlp (T : Tuning S) (db : Db) (hnlp : T.nlp = Boosts.nlpOut T.ri db) (q : Bytes) (o : Opts S)
    (hP : ParamsSane T.params) (B : List (Bytes × S)) (hB : ∀ p ∈ B, ge p.2 one)
    {rB r0 : List (Nat × S)} (h1 : search T db q (withBoosts o B) = .ok rB) (h2 : search T db q (withBoosts o []) = .ok r0)
    {d : Nat} {c : Cmd} (hc : db[d]? = some c) {w : Token} (hw : w ∈ B.map (·.1)) (hq : w ∈ queryTerms T db q o)
    (hcw : containsTerm c w = true)
    {sB s0 : S} (hdB : scoreOf rB d = some sB) (hd0 : scoreOf r0 d = some s0) : ge sB s0 :=
  monotone_containing T db q o hP (modelled_nlp_factors_nonneg T db hnlp).1 (modelled_nlp_factors_nonneg T db hnlp).2 B hB h1 h2
    hc hw hq hcw hdB hd0

/-- the context detected in *any* directory never lowers the score of any returned command, with the modelled NLP layer -/
theorem detected_context_never_lowers_modelled_nlp (T : Tuning S) (db : Db) (hnlp : T.nlp = Boosts.nlpOut T.ri db) (q : Bytes)
    (o : Opts S) (hP : ParamsSane T.params)
    (ri : RuneInfo) (listing : List Bytes) (pkg : Option (List Bytes)) (mkText : Bytes → Option Bytes)
    {rB r0 : List (Nat × S)}
    (h1 : search T db q (withBoosts o (engineBoosts (Wtf.Context.analyze ri listing pkg mkText))) = .ok rB)
    (h2 : search T db q (withBoosts o []) = .ok r0)
    {d : Nat} {sB s0 : S} (hdB : scoreOf rB d = some sB) (hd0 : scoreOf r0 d = some s0) : ge sB s0 :=
  monotone_modelled_nlp T db hnlp q o hP _ (boosts_ok_scores _) h1 h2 hdB hd0

end engine_modelled

end Wtf.C13
