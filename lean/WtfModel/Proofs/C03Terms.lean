import WtfModel.Proofs.SearchBasic
/-
  C03: which query terms reach the index (`selectTopTerms`, mirrors selectTopTerms / scoreTerms / filterAndSortTerms).
-/
namespace Wtf.Search
open Text Index

theorem effCap_default {S : Type} {o : Opts S} (h : o.topTermsCap ≤ 0) : effCap o = defaultTermCap := if_pos h

theorem effCap_pos {S : Type} (o : Opts S) : 0 < effCap o := by
  unfold effCap
  split
  · decide
  · omega

variable {S : Type} [ScoreOps S]

theorem selectTopTerms_small {T : Tuning S} {idx : Index} {terms : List Token} {cap : Nat}
    (h : terms.length ≤ cap) : selectTopTerms T idx terms cap = terms := by
  unfold selectTopTerms; simp [h]

variable (T : Tuning S)

/-! The three facts below follow the five branches of `scoreTermsAux`: no more terms; a repeated term (skipped);
    a fresh indexed term; a fresh unindexed term inside the protected prefix; one outside it (dropped). -/

theorem mem_scoreTermsAux (idx : Index) (p : Nat) (i : Nat) (ts seen : List Token)
    (x : TermScore S) (h : x ∈ scoreTermsAux T idx p i ts seen) : x.term ∈ ts := by
  fun_induction scoreTermsAux T idx p i ts seen
  case case1 => cases h
  case case2 ih => exact List.mem_cons_of_mem _ (ih h)
  case case3 ih =>
    rcases List.mem_cons.mp h with rfl | h
    · exact List.mem_cons_self
    · exact List.mem_cons_of_mem _ (ih h)
  case case4 ih =>
    rcases List.mem_cons.mp h with rfl | h
    · exact List.mem_cons_self
    · exact List.mem_cons_of_mem _ (ih h)
  case case5 ih => exact List.mem_cons_of_mem _ (ih h)

theorem orig_scoreTermsAux_le (idx : Index) (p : Nat) (i : Nat) (ts seen : List Token) :
    ((scoreTermsAux T idx p i ts seen).filter (·.isOriginal)).length ≤ p - i := by
  have hstep : ∀ {n i : Nat}, n ≤ p - (i + 1) → n ≤ p - i := fun h => Nat.le_trans h (Nat.sub_le_sub_left (Nat.le_succ _) p)
  fun_induction scoreTermsAux T idx p i ts seen
  case case1 => exact Nat.zero_le _
  case case2 ih => exact hstep ih
  case case3 ih =>
    rw [List.filter_cons]
    split
    · rename_i hi
      have := of_decide_eq_true hi
      rw [List.length_cons]; omega
    · exact hstep ih
  case case4 hi _ ih => rw [List.filter_cons, if_pos rfl, List.length_cons]; omega
  case case5 ih => exact hstep ih

omit [ScoreOps S] in
theorem mem_take_sub_cons {t a : Token} {rest : List Token} {p i : Nat} (h : t ∈ (a :: rest).take (p - i)) :
    i < p ∧ (t = a ∨ t ∈ rest.take (p - (i + 1))) := by
  have hip : i < p := by
    apply Nat.lt_of_sub_pos; apply Nat.pos_of_ne_zero; intro h0; rw [h0] at h; cases h
  rw [show p - i = (p - (i + 1)) + 1 by omega, List.take_succ_cons] at h
  exact ⟨hip, List.mem_cons.mp h⟩

theorem first_kept_scoreTermsAux (idx : Index) (p : Nat) (i : Nat) (ts seen : List Token)
    (t : Token) (ht : t ∈ ts.take (p - i)) (hns : t ∉ seen) :
    ∃ x ∈ scoreTermsAux T idx p i ts seen, x.term = t ∧ x.isOriginal = true := by
  fun_induction scoreTermsAux T idx p i ts seen
  case case1 => simp at ht
  case case2 hs ih =>
    obtain ⟨_, rfl | ht⟩ := mem_take_sub_cons ht
    · exact absurd (by simpa using hs) hns
    · exact ih ht hns
  case case3 a _ _ _ seen' _ _ ih =>
    obtain ⟨hip, ht⟩ := mem_take_sub_cons ht
    by_cases hat : t = a
    · exact ⟨_, List.mem_cons_self, hat.symm, by simp [hip]⟩
    · obtain ⟨x, hx, h⟩ := ih (ht.resolve_left hat) (by simp [seen', hat, hns])
      exact ⟨x, List.mem_cons_of_mem _ hx, h⟩
  case case4 a _ _ _ seen' _ _ ih =>
    by_cases hat : t = a
    · exact ⟨_, List.mem_cons_self, hat.symm, rfl⟩
    · obtain ⟨x, hx, h⟩ := ih ((mem_take_sub_cons ht).2.resolve_left hat) (by simp [seen', hat, hns])
      exact ⟨x, List.mem_cons_of_mem _ hx, h⟩
  case case5 hi _ _ => exact absurd (mem_take_sub_cons ht).1 hi

/-- The three exits of selectTopTerms; `L` has one scored entry per distinct term that is indexed or protected. -/
theorem selectTopTerms_cases (idx : Index) (terms : List Token) (cap : Nat) :
    (selectTopTerms T idx terms cap = terms ∧ (cap = 0 ∨ terms.length ≤ cap)) ∨
    ∃ L, L = scoreTermsAux T idx (min preserveCount terms.length) 0 terms [] ∧
      ((selectTopTerms T idx terms cap = L.map (·.term) ∧ L.length ≤ cap) ∨
       ∃ extra, selectTopTerms T idx terms cap = (L.filter (·.isOriginal)).map (·.term) ++ extra ∧
         extra ⊆ L.map (·.term) ∧ extra.length ≤ cap - (L.filter (·.isOriginal)).length) := by
  unfold selectTopTerms
  by_cases h0 : (cap == 0 || decide (terms.length ≤ cap)) = true
  · rw [if_pos h0]
    exact Or.inl ⟨rfl, by simpa using h0⟩
  · rw [if_neg h0]
    refine Or.inr ⟨_, rfl, ?_⟩
    dsimp only
    by_cases h1 : (scoreTermsAux T idx (min preserveCount terms.length) 0 terms []).length ≤ cap
    · rw [if_pos h1]; exact Or.inl ⟨rfl, h1⟩
    · rw [if_neg h1]
      right
      split
      · refine ⟨_, rfl, fun t ht => ?_, ?_⟩
        · obtain ⟨x, hx, rfl⟩ := List.mem_map.mp ht
          exact List.mem_map_of_mem (List.mem_filter.mp (mem_of_mem_take_sortDesc hx)).1
        · rw [List.length_map, List.length_take, List.length_map]; exact Nat.min_le_left _ _
      · exact ⟨[], (List.append_nil _).symm, List.nil_subset _, Nat.zero_le _⟩

variable {T}

theorem selectTopTerms_subset {idx : Index} {terms : List Token} {cap : Nat} {t : Token}
    (ht : t ∈ selectTopTerms T idx terms cap) : t ∈ terms := by
  have hL : ∀ t ∈ (scoreTermsAux T idx (min preserveCount terms.length) 0 terms []).map (·.term), t ∈ terms := by
    intro t ht
    obtain ⟨x, hx, rfl⟩ := List.mem_map.mp ht
    exact mem_scoreTermsAux T idx _ 0 terms [] x hx
  rcases selectTopTerms_cases T idx terms cap with ⟨h, _⟩ | ⟨L, rfl, ⟨h, _⟩ | ⟨extra, h, hsub, _⟩⟩
  · rwa [h] at ht
  · rw [h] at ht; exact hL t ht
  · rw [h] at ht
    rcases List.mem_append.mp ht with ht | ht
    · obtain ⟨x, hx, rfl⟩ := List.mem_map.mp ht
      exact hL _ (List.mem_map_of_mem (List.mem_filter.mp hx).1)
    · exact hL t (hsub ht)

theorem selectTopTerms_first_four {idx : Index} {terms : List Token} {cap : Nat} {t : Token}
    (ht : t ∈ terms.take preserveCount) : t ∈ selectTopTerms T idx terms cap := by
  rcases selectTopTerms_cases T idx terms cap with ⟨h, _⟩ | ⟨L, rfl, hL⟩
  · rw [h]; exact List.mem_of_mem_take ht
  · -- the term has a protected entry among the scored ones
    have ht' : t ∈ terms.take (min preserveCount terms.length - 0) := by
      rw [List.take_eq_take_min] at ht; rw [Nat.sub_zero]; exact ht
    obtain ⟨x, hx, hxt, hxo⟩ := first_kept_scoreTermsAux T idx _ 0 terms [] t ht' (by simp)
    rcases hL with ⟨h, _⟩ | ⟨extra, h, _, _⟩
    · rw [h]; exact List.mem_map.mpr ⟨x, hx, hxt⟩
    · rw [h]; exact List.mem_append_left _ (List.mem_map.mpr ⟨x, List.mem_filter.mpr ⟨hx, hxo⟩, hxt⟩)

theorem selectTopTerms_length {idx : Index} {terms : List Token} {cap : Nat} (hcap : 0 < cap) :
    (selectTopTerms T idx terms cap).length ≤ max cap preserveCount := by
  have horig : ((scoreTermsAux T idx (min preserveCount terms.length) 0 terms []).filter (·.isOriginal)).length ≤ preserveCount :=
    Nat.le_trans (orig_scoreTermsAux_le T idx _ 0 terms []) (Nat.min_le_left _ _)
  rcases selectTopTerms_cases T idx terms cap with ⟨h, hc⟩ | ⟨L, rfl, ⟨h, hl⟩ | ⟨extra, h, _, hl⟩⟩
  · rw [h]; omega
  · rw [h, List.length_map]; omega
  · rw [h, List.length_append, List.length_map]; omega
end Wtf.Search
