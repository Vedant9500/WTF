import WtfModel.Proofs.C01Score
import WtfModel.Proofs.C03Index
/-
  C13, engine half: the score maps of two runs that differ only in the boost map.
  The vocabulary of the statements (`withBoosts`, `ids`, `scoreOf`, `pqOf`, `queryTerms`, `scoresOf`; the last three are by
  definition `Search.pqOf T q o`, `selectTopTerms … (Search.termsOf T q o) …` and `Search.scoresOf` of Proofs/SearchPaths.lean,
  `pqOf` with the arguments `T o nq` for any normalised query: inside this namespace the short names mean the ones
  here, and the proofs of C13TwoRuns pass between the two by unfolding); the per-term boost table, entry by
  entry (`raiseOpt`), under any relation on entries that raising keeps — equality, and domination `Dom`; and the
  simulation of the accumulation loops: two score maps with the same keys whose entries are related by `E`
  (`MapRel E`), for every `E` that sums keep (`Step E`).
-/
namespace Wtf.C13
open Wtf.Text Wtf.Index Wtf.Search ScoreOps ScoreLaws

variable {S : Type} [ScoreOps S]

def withBoosts (o : Opts S) (B : List (Bytes × S)) : Opts S := { o with boosts := B }

def ids (r : List (Nat × S)) : List Nat := r.map (·.1)

def scoreOf (r : List (Nat × S)) (d : Nat) : Option S := (r.find? (·.1 == d)).map (·.2)

omit [ScoreOps S] in
theorem scoreOf_mem {r : List (Nat × S)} {d : Nat} {s : S} (h : scoreOf r d = some s) : (d, s) ∈ r := by
  unfold scoreOf at h
  obtain ⟨⟨d', s'⟩, hf, hs⟩ := Option.map_eq_some_iff.mp h
  have hd : d' = d := by simpa using List.find?_some hf
  subst hd hs
  exact List.mem_of_find?_eq_some hf

def pqOf (T : Tuning S) (o : Opts S) (nq : Bytes) : Option (NlpOut S) := if o.useNLP then some (T.nlp nq) else none

omit [ScoreOps S] in
theorem pqOf_eq_some {T : Tuning S} {o : Opts S} {nq : Bytes} {n : NlpOut S} (h : pqOf T o nq = some n) : n = T.nlp nq :=
  (Option.some.inj (Option.ite_none_right_eq_some.mp h).2).symm

/-- the query terms after NLP enhancement and term selection (the `terms` of `SearchUniversal`) -/
def queryTerms (T : Tuning S) (db : Db) (q : Bytes) (o : Opts S) : List Token :=
  let nq := T.normQ q
  let terms1 := match pqOf T o nq with | some n => enhanceTerms (tokenize nq) n.enhanced | none => tokenize nq
  selectTopTerms T (build db) terms1 (effCap o)

def scoresOf (T : Tuning S) (db : Db) (q : Bytes) (o : Opts S) : List (Nat × S) :=
  initialScores T db (build db) o (pqOf T o (T.normQ q)) (queryTerms T db q o)

/-- what `raiseTo _ k v` does to the entry of `k` -/
def raiseOpt (x : Option S) (v : S) : Option S :=
  match x with
  | some b => some (if lt b v then v else b)
  | none => if lt zero v then some v else none

theorem look_raiseTo (tb : List (Bytes × S)) (k t : Bytes) (v : S) :
    look (raiseTo tb k v) t = if k = t then raiseOpt (look tb k) v else look tb t := by
  unfold raiseTo raiseOpt
  by_cases hk : k = t
  · subst hk
    simp only [↓reduceIte]
    cases hb : look tb k with
    | some b =>
      simp only
      cases hlt : lt b v <;> simp [look_upd, hb]
    | none =>
      simp only
      cases hlt : lt (zero : S) v <;> simp [look_upd, hb]
  · simp only [hk, ↓reduceIte]
    have hk' : ¬ t = k := fun e => hk e.symm
    split <;> split <;> simp [look_upd, hk']

theorem termBoosts_rel {R : Option S → Option S → Prop} {o1 o2 : Opts S} (pq : Option (NlpOut S)) {t : Token}
    (ha : ∀ x y, R x y → R (raiseOpt x (ofQ actionEmphasis)) (raiseOpt y (ofQ actionEmphasis)))
    (ht : ∀ x y, R x y → R (raiseOpt x (ofQ targetEmphasis)) (raiseOpt y (ofQ targetEmphasis)))
    (h : R (look o1.boosts t) (look o2.boosts t)) : R (look (termBoosts o1 pq) t) (look (termBoosts o2 pq) t) := by
  have raise : ∀ (v : S), (∀ x y, R x y → R (raiseOpt x v) (raiseOpt y v)) → ∀ (l : List Bytes) (tb1 tb2 : List (Bytes × S)),
      R (look tb1 t) (look tb2 t) →
      R (look (l.foldl (fun tb a => raiseTo tb a v) tb1) t) (look (l.foldl (fun tb a => raiseTo tb a v) tb2) t) := by
    intro v hv l tb1 tb2 h0
    refine List.foldl_rel (r := fun tb1 tb2 => R (look tb1 t) (look tb2 t)) h0 fun a _ tb1 tb2 h => ?_
    rw [look_raiseTo, look_raiseTo]
    split
    · rename_i hk; subst hk; exact hv _ _ h
    · exact h
  cases pq with
  | none => exact h
  | some n => exact raise _ ht _ _ _ (raise _ ha _ _ _ h)

section dom
variable [ScoreLaws S]

/-- entry `x` of one boost table dominates entry `y` of another: the multiplier `boostOf` reads off `x` is at least
    the one it reads off `y`, and stays so when both entries are raised to the same emphasis -/
inductive Dom : Option S → Option S → Prop
  | none : Dom none none
  | left {b : S} : Pos b → ge b one → Dom (some b) none
  | both {b1 b2 : S} : Pos b1 → Pos b2 → ge b1 b2 → Dom (some b1) (some b2)

def TbRel (tb1 tb2 : List (Bytes × S)) : Prop := ∀ t, Dom (look tb1 t) (look tb2 t)

theorem tbRel_base (B : List (Bytes × S)) (hB : ∀ p ∈ B, ge p.2 one) : TbRel B [] := by
  intro t
  cases hb : look B t with
  | none => exact .none
  | some b => exact .left (pos_of_ge_one (hB _ (look_mem hb))) (hB _ (look_mem hb))

omit [ScoreLaws S] in
theorem pos_max {b v : S} (hb : Pos b) (hv : Pos v) : Pos (if lt b v then v else b) := by
  split <;> assumption

theorem Dom.raise {x y : Option S} (h : Dom x y) {v : S} (hv : Pos v) : Dom (raiseOpt x v) (raiseOpt y v) := by
  have hv' : lt (zero : S) v = true := hv
  cases h with
  | none => simp only [raiseOpt, hv', ↓reduceIte]; exact .both hv hv (ge_refl v)
  | left hb _ =>
    simp only [raiseOpt, hv', ↓reduceIte]
    refine .both (pos_max hb hv) hv ?_
    split
    · exact ge_refl v
    · rename_i hlt; simpa using hlt
  | @both b1 b2 h1 h2 hge =>
    refine .both (pos_max h1 hv) (pos_max h2 hv) ?_
    cases c1 : lt b1 v <;> cases c2 : lt b2 v <;> simp only [Bool.false_eq_true, ↓reduceIte]
    · exact hge
    · exact c1
    · exact ge_trans (lt_asymm _ _ c1) hge     -- b1 < v and v ≤ b2 ≤ b1
    · exact ge_refl v

theorem tbRel_termBoosts {o1 o2 : Opts S} (h : TbRel o1.boosts o2.boosts) (pq : Option (NlpOut S)) :
    TbRel (termBoosts o1 pq) (termBoosts o2 pq) := fun t =>
  termBoosts_rel pq (fun _ _ h => h.raise (ofQ_pos _ (by decide) (by decide)))
    (fun _ _ h => h.raise (ofQ_pos _ (by decide) (by decide))) (h t)

theorem boostOf_ge {tb1 tb2 : List (Bytes × S)} (h : TbRel tb1 tb2) (t : Token) :
    ge (boostOf tb1 t) (boostOf tb2 t) := by
  unfold boostOf
  have h := h t
  generalize look tb1 t = x at h ⊢
  generalize look tb2 t = y at h ⊢
  cases h with
  | none => exact ge_refl _
  | left hb h1 => simp only [show lt zero _ = true from hb, ↓reduceIte]; exact h1
  | both h1 h2 hge => simp only [show lt zero _ = true from h1, show lt zero _ = true from h2, ↓reduceIte]; exact hge

theorem boostOf_nonneg (tb : List (Bytes × S)) (t : Token) : Nonneg (boostOf tb t) := pos_nonneg (boostOf_pos tb t)

end dom

/-- what `defaultParams()` must satisfy for the scores to be non-negative -/
structure ParamsSane [ScoreLaws S] (P : Params S) : Prop where
  k1 : Nonneg P.k1
  wCmd : Pos P.wCmd
  wDesc : Pos P.wDesc
  wKeys : Pos P.wKeys
  wTags : Pos P.wTags
  bCmd0 : Nonneg P.bCmd
  bDesc0 : Nonneg P.bDesc
  bKeys0 : Nonneg P.bKeys
  bTags0 : Nonneg P.bTags
  bCmd1 : ge (one : S) P.bCmd
  bDesc1 : ge (one : S) P.bDesc
  bKeys1 : ge (one : S) P.bKeys
  bTags1 : ge (one : S) P.bTags
  minIDF : Nonneg P.minIDF

section bm25
variable [ScoreLaws S]

/-- the hypothesis of C01 on the parameters is the stronger one, up to the idf floor -/
theorem ParamsSane.of_wf {P : Params S} (h : ParamsWF P) (hm : Nonneg P.minIDF) : ParamsSane P :=
  ⟨pos_nonneg h.k1_pos, h.wCmd_pos, h.wDesc_pos, h.wKeys_pos, h.wTags_pos, h.bCmd_nonneg, h.bDesc_nonneg, h.bKeys_nonneg,
    h.bTags_nonneg, h.bCmd_le_one, h.bDesc_le_one, h.bKeys_le_one, h.bTags_le_one, hm⟩

/-- the regenerated parameters (`Gen.Bm25`) are sane: checked by `decide` on every run -/
theorem genParams_sane : ParamsSane (genParams : Params S) := .of_wf genParams_wf (ofQ_nonneg _ (by decide) (by decide))

theorem termBM25F_nonneg_of_sane {P : Params S} (hP : ParamsSane P) (n : Nat) (tot dl : DocLens) (tf : FieldTF) :
    Nonneg (termBM25F P n tot dl tf) :=
  termBM25F_nonneg_of hP.k1 ⟨hP.wCmd, hP.bCmd0, hP.bCmd1⟩ ⟨hP.wDesc, hP.bDesc0, hP.bDesc1⟩
    ⟨hP.wKeys, hP.bKeys0, hP.bKeys1⟩ ⟨hP.wTags, hP.bTags0, hP.bTags1⟩ n tot dl tf

end bm25

inductive MapRel (E : Nat → S → S → Prop) : List (Nat × S) → List (Nat × S) → Prop
  | nil : MapRel E [] []
  | cons {d : Nat} {s1 s2 : S} {m1 m2 : List (Nat × S)} :
      E d s1 s2 → MapRel E m1 m2 → MapRel E ((d, s1) :: m1) ((d, s2) :: m2)

/-- `E` survives accumulation: it holds of the empty sums and is kept by adding related summands -/
structure Step (E : Nat → S → S → Prop) : Prop where
  zero : ∀ d, E d zero zero
  add : ∀ d s1 s2 x1 x2, E d s1 s2 → E d x1 x2 → E d (add s1 x1) (add s2 x2)

theorem MapRel.keys {E : Nat → S → S → Prop} {m1 m2 : List (Nat × S)} (h : MapRel E m1 m2) :
    m1.map (·.1) = m2.map (·.1) := by
  induction h with
  | nil => rfl
  | cons _ _ ih => simp [ih]

theorem MapRel.length {E : Nat → S → S → Prop} {m1 m2 : List (Nat × S)} (h : MapRel E m1 m2) :
    m1.length = m2.length := by
  have := congrArg List.length h.keys
  simpa using this

theorem MapRel.lookup {E : Nat → S → S → Prop} {m1 m2 : List (Nat × S)} (h : MapRel E m1 m2)
    (hnd : (m1.map (·.1)).Nodup) {d : Nat} {s1 s2 : S} (h1 : (d, s1) ∈ m1) (h2 : (d, s2) ∈ m2) : E d s1 s2 := by
  induction h with
  | nil => cases h1
  | @cons d' a b m1 m2 he hr ih =>
    rw [List.map_cons, List.nodup_cons] at hnd
    -- `d` is the head key of both lists or of neither: the keys agree and are distinct
    rcases List.mem_cons.mp h1 with e1 | t1 <;> rcases List.mem_cons.mp h2 with e2 | t2
    · cases e1; cases e2; exact he
    · cases e1; exact absurd (hr.keys ▸ List.mem_map_of_mem (f := (·.1)) t2) hnd.1
    · cases e2; exact absurd (List.mem_map_of_mem (f := (·.1)) t1) hnd.1
    · exact ih hnd.2 t1 t2

theorem addScore_rel {E : Nat → S → S → Prop} (st : Step E) {m1 m2 : List (Nat × S)} (h : MapRel E m1 m2)
    (d : Nat) {x1 x2 : S} (hx : E d x1 x2) : MapRel E (addScore m1 d x1) (addScore m2 d x2) := by
  induction h with
  | nil => exact .cons (st.add _ _ _ _ _ (st.zero d) hx) .nil
  | @cons d' a b m1 m2 he hr ih =>
    simp only [addScore]
    by_cases h1 : (d' == d) = true
    · have : d' = d := by simpa using h1
      subst this
      simp only [h1, ↓reduceIte]
      exact .cons (st.add _ _ _ _ _ he hx) hr
    · simp only [h1, Bool.false_eq_true, ↓reduceIte]
      by_cases h2 : d < d'
      · simp only [h2, ↓reduceIte]
        exact .cons (st.add _ _ _ _ _ (st.zero d) hx) (.cons he hr)
      · simp only [h2, ↓reduceIte]
        exact .cons he ih

theorem initialScores_rel {E : Nat → S → S → Prop} (st : Step E) (T : Tuning S) (db : Db) (idx : Index)
    {o1 o2 : Opts S} (hf : o1.filter = o2.filter) (pq : Option (NlpOut S)) (terms : List Token)
    (hx : ∀ h ∈ hits T db idx o1 terms,
      E h.2.doc (contrib T idx (termBoosts o1 pq) h.1 h.2) (contrib T idx (termBoosts o2 pq) h.1 h.2)) :
    MapRel E (initialScores T db idx o1 pq terms) (initialScores T db idx o2 pq terms) := by
  -- the postings that take part are the same in both runs
  rw [initialScores_eq_hits, initialScores_eq_hits, show hits T db idx o2 terms = hits T db idx o1 terms by rw [hits, hits, hf]]
  exact List.foldl_rel .nil fun h hh _ _ hm => addScore_rel st hm _ (hx h hh)

theorem step_true : Step (S := S) (fun _ _ _ => True) := ⟨fun _ => trivial, fun _ _ _ _ _ _ _ => trivial⟩

theorem step_ge [ScoreLaws S] : Step (S := S) (fun _ a b => ge a b) :=
  ⟨fun _ => ge_refl _, fun _ s1 s2 x1 x2 h1 h2 => ge_trans (add_le_add_right s1 s2 x1 h1) (add_le_add_left x1 x2 s2 h2)⟩

theorem step_eqAt (d0 : Nat) : Step (S := S) (fun d a b => d = d0 → a = b) :=
  ⟨fun _ _ => rfl, fun _ _ _ _ _ h1 h2 hd => by rw [h1 hd, h2 hd]⟩

/-- **candidates do not depend on the boosts**: the keys of the score map are decided by postings and
    the gate only -/
theorem initialScores_keys_indep_boosts (T : Tuning S) (db : Db) (idx : Index) {o1 o2 : Opts S} (hf : o1.filter = o2.filter)
    (pq : Option (NlpOut S)) (terms : List Token) :
    (initialScores T db idx o1 pq terms).map (·.1) = (initialScores T db idx o2 pq terms).map (·.1) :=
  (initialScores_rel step_true T db idx hf pq terms (fun _ _ => trivial)).keys

/-- **index soundness**: a posting for `t` names a document of `db` whose indexed text contains `t`
    (the built index answers like the scan specification, `buildSpec_build`) -/
theorem posting_sound (db : Db) {t : Token} {ps : List Posting} (hl : look (build db).postings t = some ps)
    {p : Posting} (hp : p ∈ ps) : ∃ c, db[p.doc]? = some c ∧ containsTerm c t = true := by
  have e := (buildSpec_build db).postings_getD t
  rw [hl, Option.getD_some] at e
  obtain ⟨c, hc, hct, _⟩ := mem_scanPostings.mp (e ▸ hp)
  exact ⟨c, hc, hct⟩

section runs
variable (T : Tuning S) (db : Db) (q : Bytes) (o : Opts S)

theorem scoresOf_keys (B B' : List (Bytes × S)) :
    (scoresOf T db q (withBoosts o B)).map (·.1) = (scoresOf T db q (withBoosts o B')).map (·.1) :=
  initialScores_keys_indep_boosts T db (build db) (o1 := withBoosts o B) (o2 := withBoosts o B') rfl _ _

theorem scoresOf_length (B B' : List (Bytes × S)) :
    (scoresOf T db q (withBoosts o B)).length = (scoresOf T db q (withBoosts o B')).length := by
  have h := congrArg List.length (scoresOf_keys T db q o B B')
  rwa [List.length_map, List.length_map] at h

theorem scoresOf_inv (B : List (Bytes × S)) : ScoresInv T db (withBoosts o B) (scoresOf T db q (withBoosts o B)) :=
  initialScores_inv T db (build db) _ _ _

theorem scoresOf_ge [ScoreLaws S] (hP : ParamsSane T.params) {B B' : List (Bytes × S)} (hB : TbRel B B') :
    MapRel (fun _ a b => ge a b) (scoresOf T db q (withBoosts o B)) (scoresOf T db q (withBoosts o B')) := by
  apply initialScores_rel step_ge T db (build db) (o1 := withBoosts o B) (o2 := withBoosts o B') rfl
  intro h hh
  have hidf0 : Nonneg (T.idf (build db).n ((look (build db).df h.1).getD 0)) := nonneg_of_ge (mem_hits.mp hh).2.1 hP.minIDF
  have hb := boostOf_ge (tbRel_termBoosts (o1 := withBoosts o B) (o2 := withBoosts o B') hB (pqOf T o (T.normQ q))) h.1
  exact mul_le_mul_right _ _ _ (mul_le_mul_left _ _ _ hb hidf0) (termBM25F_nonneg_of_sane hP _ _ _ _)

/-- the entry of a document is the same when the two boost maps agree on every query term that the document's
    indexed text contains (a term it does not contain has no posting for it: `posting_sound`) -/
theorem scoresOf_eqAt (B B' : List (Bytes × S)) (d : Nat)
    (hd : ∀ t ∈ queryTerms T db q o, look B t ≠ look B' t → ∀ c, db[d]? = some c → containsTerm c t = false) :
    MapRel (fun d' a b => d' = d → a = b) (scoresOf T db q (withBoosts o B)) (scoresOf T db q (withBoosts o B')) := by
  apply initialScores_rel (step_eqAt d) T db (build db) (o1 := withBoosts o B) (o2 := withBoosts o B') rfl
  intro ⟨t, p⟩ hh hpd
  obtain ⟨ht, _, ⟨ps, hps, hp⟩, _⟩ := mem_hits.mp hh
  by_cases hk : look B t = look B' t
  · unfold contrib boostOf
    rw [termBoosts_rel (R := Eq) (o1 := withBoosts o B) (o2 := withBoosts o B') _
      (fun _ _ h => congrArg (raiseOpt · _) h) (fun _ _ h => congrArg (raiseOpt · _) h) hk]
  · obtain ⟨c, hc, hct⟩ := posting_sound db hps hp
    rw [hpd] at hc
    rw [hd t ht hk c hc] at hct
    cases hct

end runs

end Wtf.C13
