import WtfModel.Proofs.LegacyScore
import WtfModel.Proofs.LegacyGate
import WtfModel.Proofs.C01Legacy
import WtfModel.Proofs.Metrics
/-
  C01 / C04 lemmas for the modelled legacy entry points (Model/LegacyEntry.lean): SearchWithPipelineOptions,
  SearchWithOptions, combineAndDeduplicateResults, SearchWithFuzzy, SearchWithNLP, GetSuggestions.
  First what GetSuggestions needs of Model/Tfidf.lean: `Tfidf.dedup` keeps each word once, and `Tfidf.sortWords` is
  `Metrics.sortBy Metrics.bytesLe` (`Tfidf.sortWords_eq`), so the candidate words inherit the sorted-permutation facts of
  Proofs/Metrics.  Core Lean only.
-/
namespace Wtf.Tfidf

theorem mem_dedup {l : List Bytes} {w : Bytes} : w ∈ dedup l ↔ w ∈ l := by
  rw [dedup, foldl_or_exists _ (w ∈ ·) (· = w) fun acc x => ?_]
  · simp
  · split
    · rename_i hc
      exact ⟨.inl, fun h => h.elim id fun e => e ▸ List.contains_iff_mem.mp hc⟩
    · simp [eq_comm]

theorem nodup_dedup (l : List Bytes) : (dedup l).Nodup := by
  refine foldl_preserves (P := List.Nodup) (fun acc w h => ?_) l .nil
  split
  · exact h
  · rename_i hc
    refine List.nodup_append.mpr ⟨h, List.pairwise_singleton _ w, fun a ha b hb e => hc ?_⟩
    rw [List.mem_singleton.mp hb] at e
    exact List.contains_iff_mem.mpr (e ▸ ha)

theorem bytesLt_iff : ∀ a b : Bytes, bytesLt a b = true ↔ a < b
  | [], [] => by simp [bytesLt]
  | [], _ :: _ => by simp [bytesLt]
  | _ :: _, [] => by simp [bytesLt]
  | x :: a, y :: b => by
    rw [bytesLt, List.cons_lt_cons_iff, ← bytesLt_iff a b]
    split
    · simp [*]
    · split
      · rename_i h1 h2
        have : x ≠ y := by rintro rfl; exact h1 h2
        simp [*]
      · rename_i h1 h2
        have : x = y := UInt8.le_antisymm (UInt8.not_lt.mp h2) (UInt8.not_lt.mp h1)
        simp [*]

theorem bytesLe_eq (a b : Bytes) : bytesLe a b = Metrics.bytesLe a b := by
  rw [Bool.eq_iff_iff, bytesLe, Bool.not_eq_true', ← Bool.not_eq_true, bytesLt_iff, Metrics.bytesLe_iff, List.not_lt]

theorem sortWords_eq (l : List Bytes) : sortWords l = Metrics.sortBy Metrics.bytesLe l := by
  unfold sortWords
  induction l with
  | nil => rfl
  | cons x xs ih =>
    simp only [List.foldr_cons, Metrics.sortBy]
    rw [ih]
    generalize Metrics.sortBy Metrics.bytesLe xs = s
    induction s with
    | nil => rfl
    | cons y ys ih2 => simp only [insertSorted, Metrics.insertBy, bytesLe_eq, ih2]

end Wtf.Tfidf

namespace Wtf.LegacyEntry
open ScoreOps ScoreLaws Search LegacyScore

variable {S : Type} [ScoreOps S]
theorem searchPipeline_post [ScoreLaws S] (fin : S → S) (ri : RuneInfo) (db : Db) (q : Bytes) (o : Opts S) :
    Post db.length (pipelineLimit o.limit).toNat (searchPipeline fin ri db q o) := by
  rw [searchPipeline, scanWith_eq]
  exact (cand_dbScan (fun _ _ _ h => pos_nonneg (pipelineScore_some h).1) db).sortDesc.post_take _

theorem searchPipeline_pos (fin : S → S) (ri : RuneInfo) (db : Db) (q : Bytes) (o : Opts S) :
    ∀ x ∈ searchPipeline fin ri db q o, lt (zero : S) x.2 = true := by
  intro x hx
  obtain ⟨c, _, hf⟩ := mem_scanWith (mem_of_mem_take_sortDesc hx)
  exact (pipelineScore_some hf).1

theorem searchWithOptions_post [ScoreLaws S] (fin : S → S) (ri : RuneInfo) (host : Bytes) (db : Db) (q : Bytes) (limit : Int)
    (boosts : List (Bytes × S)) :
    Post db.length (optionsLimit limit).toNat (searchWithOptions fin ri host db q limit boosts) := by
  rw [searchWithOptions, scanWith_eq]
  exact (cand_dbScan (fun _ _ _ h => pos_nonneg (platformScore_some h).1) db).sortDesc.post_take _

theorem searchWithOptions_pos (fin : S → S) (ri : RuneInfo) (host : Bytes) (db : Db) (q : Bytes) (limit : Int)
    (boosts : List (Bytes × S)) :
    ∀ x ∈ searchWithOptions fin ri host db q limit boosts, lt (zero : S) x.2 = true := by
  intro x hx
  obtain ⟨c, _, hf⟩ := mem_scanWith (mem_of_mem_take_sortDesc hx)
  exact (platformScore_some hf).1

theorem combinedList_ids_nodup (db : Db) (exact fuzzy : List (Nat × S)) :
    ((combinedList db exact fuzzy).map (·.1)).Nodup :=
  List.pairwise_map.mpr ((List.pairwise_map.mp (combinedList_keys_nodup db exact fuzzy)).imp fun hab he => hab (by rw [he]))

theorem combine_post [ScoreLaws S] (db : Db) {n : Nat} {exact fuzzy : List (Nat × S)} (limit : Nat)
    (he : ∀ x ∈ exact, x.1 < n ∧ Nonneg x.2) (hf : ∀ x ∈ fuzzy, x.1 < n ∧ Nonneg x.2) :
    Post n limit (combine db exact fuzzy limit) := by
  have hmem : ∀ x ∈ combinedList db exact fuzzy, x.1 < n ∧ Nonneg x.2 := by
    intro x hx
    rw [combinedList_eq, List.mem_append] at hx
    cases hx with
    | inl hx => exact he x ((exactPart_sublist db exact).subset hx)
    | inr hx =>
      obtain ⟨y, hy, rfl⟩ := typoPart_sub hx
      exact ⟨(hf y hy).1, mul_nonneg _ _ (hf y hy).2 (ofQ_nonneg' (by decide))⟩
  exact (Cand.mk (combinedList_ids_nodup db exact fuzzy) (fun x hx => (hmem x hx).1)
    fun x hx => (hmem x hx).2).sortDesc.post_take limit

/-- "exact results first": an exact result precedes every typo result whose (discounted) score is not
    strictly higher — `sort.SliceStable` keeps the order in which `combined` was filled -/
theorem combine_exact_first [ScoreLaws S] {db : Db} {exact fuzzy : List (Nat × S)} {a b : Nat × S}
    (ha : a ∈ exactPart db exact) (hb : b ∈ typoPart db exact fuzzy) (hge : lt a.2 b.2 = false) :
    [a, b].Sublist (sortDesc (·.2) (combinedList db exact fuzzy)) :=
  pair_sublist_sortDesc hge
    (combinedList_eq db exact fuzzy ▸ (List.singleton_sublist.mpr ha).append (List.singleton_sublist.mpr hb))

theorem performFuzzy_spec [ScoreLaws S] {T : Tuning S} {db : Db} {q : Bytes} {o : Opts S} {limit : Int} {r : List (Nat × S)}
    (h : performFuzzy T db q o limit = .ok r) : ∀ x ∈ r, x.1 < db.length ∧ Nonneg x.2 := by
  obtain ⟨sub, hk, rfl⟩ := performFuzzy_inv h
  intro x hx
  obtain ⟨m, hm, rfl⟩ := List.mem_map.mp hx
  exact ⟨eligible_lt (hk m hm).1, normalizeFuzzy_nonneg _⟩

/-- **SearchWithFuzzy**: the five clauses with the limit in force, on every one of its three exits;
    no hypothesis on the parameters (the de-duplication is by key and the last step is a stable sort). -/
theorem searchWithFuzzy_post [ScoreLaws S] {fin : S → S} {T : Tuning S} {db : Db} {q : Bytes} {o : Opts S}
    {r : List (Nat × S)} (h : searchWithFuzzy fin T db q o = .ok r) :
    Post db.length (fuzzyLimit o.limit).toNat r := by
  have hex := searchWithOptions_post fin T.ri T.host db q (exactLimit (fuzzyLimit o.limit)) o.boosts
  rcases searchWithFuzzy_ok h with rfl | ⟨fz, hfz, rfl⟩
  · exact hex.ranked.post_take _
  · exact combine_post db _ (fun x hx => ⟨hex.real x hx, hex.nonneg x hx⟩) (performFuzzy_spec hfz)

/-- what the shared-searcher branch relies on: `TFIDFSearcher.Search` returns each command at most once,
    best similarity first (sort.SliceStable, translator assertion legacyscore:tfidf-search-tail), with
    non-negative similarities (only similarities > 0.01 are kept).  `tfidf_search_rankOK` proves it for
    the model of the searcher. -/
def RankOK (l : List (Nat × S)) : Prop :=
  (l.map (·.1)).Nodup ∧ l.Pairwise (fun a b => lt a.2 b.2 = false) ∧ ∀ x ∈ l, Nonneg x.2

theorem nlpShared_post [ScoreLaws S] (db : Db) (rank : Bytes → List (Nat × S)) (q : Bytes) (limit : Int)
    (hr : RankOK (rank q)) : Post db.length limit.toNat (nlpShared db rank q limit) := by
  obtain ⟨hn, hs, hnn⟩ := hr
  have hsub : (((rank q).take (candidateLimit limit).toNat).filter (fun x => decide (x.1 < db.length))).Sublist (rank q) :=
    List.filter_sublist.trans (List.take_sublist _ _)
  have hc : Nonneg (ofQ Gen.LegacyScore.similarityScale : S) := ofQ_nonneg' (by decide)
  -- a sub-list of the ranking, every score multiplied by one non-negative constant: still ranked
  exact (ranked_map (fun x : Nat × S => x.1) (fun x : Nat × S => mul x.2 (ofQ Gen.LegacyScore.similarityScale))
    ((hsub.map _).nodup hn) (fun x hx => by simpa using (List.mem_filter.mp hx).2)
    (fun x hx => mul_nonneg _ _ (hnn x (hsub.subset hx)) hc)
    ((hs.sublist hsub).imp (fun hab => mul_le_mul_right _ _ _ hab hc))).post_take _

theorem rankOK_nil : RankOK ([] : List (Nat × S)) := ⟨by simp, by simp, by simp⟩

/-- the hypothesis of `nlpShared_post` holds for the model of `TFIDFSearcher.Search` (Model/Tfidf.lean) with any
    non-negative similarity threshold (the code's is 0.01), whatever `sqrt` and the idf table are -/
theorem tfidf_search_rankOK [ScoreLaws S] (ri : RuneInfo) (sqrt : S → S) (minSim : S) (hm : Nonneg minSim)
    (idx : Tfidf.Index S) (q : Bytes) (limit : Nat) : RankOK (Tfidf.search ri sqrt minSim idx q limit) := by
  unfold Tfidf.search
  extract_lets qt qv qn sims
  split
  · exact rankOK_nil
  · split
    · exact rankOK_nil
    · -- document `d` contributes at most the pair `(d, its similarity)`, and only above the floor
      obtain ⟨f, hs, hf⟩ : ∃ f, sims = (List.range idx.n).filterMap f ∧
          ∀ d x, f d = some x → x.1 = d ∧ lt minSim x.2 = true := by
        refine ⟨_, rfl, fun d x h => ?_⟩
        extract_lets s at h
        split at h
        · exact Option.some.inj h ▸ ⟨rfl, ‹_›⟩
        · cases h
      have hc : Cand idx.n sims := by
        rw [hs]
        refine ⟨List.pairwise_map.mpr (List.nodup_range.filterMap f fun a a' hne b hb b' hb' e => ?_), fun x hx => ?_, fun x hx => ?_⟩
        · exact hne (by rw [← (hf a b hb).1, ← (hf a' b' hb').1, e])
        · obtain ⟨d, hd, hx⟩ := List.mem_filterMap.mp hx
          exact (hf d x hx).1 ▸ List.mem_range.mp hd
        · obtain ⟨d, _, hx⟩ := List.mem_filterMap.mp hx
          exact nonneg_of_ge (lt_asymm _ _ (hf d x hx).2) hm
      have hr := hc.sortDesc.sublist (List.take_sublist limit _)
      exact ⟨hr.nodup, hr.sorted, hr.nonneg⟩

/-- `results` of the temporary branch just before the final `sort.SliceStable` -/
def nlpTemporaryUnsorted (fin : S → S) (T : Tuning S) (tmp : Bytes → List (Nat × S)) (db : Db) (q : Bytes) (o : Opts S)
    (limit : Int) : Except Fuzzy.Panic (List (Nat × S)) :=
  let res := ((tmp q).take (candidateLimit limit).toNat).map (fun x => (x.1, mul x.2 (ofQ tfidfScoreScale)))
  let fb : Except Fuzzy.Panic (List (Nat × S)) :=
    if (res.length : Int) < limit then nlpFallback fin T db q o (limit - res.length) else .ok []
  match fb with
  | .error e => .error e
  | .ok fbr => .ok (res ++ fbr)

theorem nlpTemporary_eq (fin : S → S) (T : Tuning S) (tmp : Bytes → List (Nat × S)) (db : Db) (q : Bytes) (o : Opts S)
    (limit : Int) : nlpTemporary fin T tmp db q o limit =
      match nlpTemporaryUnsorted fin T tmp db q o limit with
      | .error e => .error e
      | .ok l => .ok ((sortDesc (·.2) l).take limit.toNat) := by
  unfold nlpTemporary nlpTemporaryUnsorted
  simp only
  -- both sides scrutinise the same fallback value
  split <;> simp only [*]

/-- The branch without shared searcher: everything but "no entry twice" (the TF-IDF results and the
    fallback results are appended without de-duplication — witness in Props/C01b.lean). -/
theorem nlpTemporary_partial [ScoreLaws S] {fin : S → S} {T : Tuning S} {tmp : Bytes → List (Nat × S)} {db : Db} {q : Bytes}
    {o : Opts S} {limit : Int} {r : List (Nat × S)}
    (htmp : ∀ x ∈ tmp q, x.1 < db.length ∧ Nonneg x.2) (hib : ∀ d, Nonneg ((T.nlp q).intentBoost d))
    (h : nlpTemporary fin T tmp db q o limit = .ok r) :
    r.length ≤ limit.toNat ∧ (∀ x ∈ r, x.1 < db.length) ∧ r.Pairwise (fun a b => lt a.2 b.2 = false) ∧
    (∀ x ∈ r, Nonneg x.2) := by
  rw [nlpTemporary_eq] at h
  split at h
  · cases h
  · rename_i l hl
    cases h
    -- both halves of the unsorted list consist of valid positions with non-negative scores
    have hall : ∀ x ∈ l, x.1 < db.length ∧ Nonneg x.2 := by
      unfold nlpTemporaryUnsorted at hl
      simp only at hl
      split at hl
      · cases hl
      · rename_i fbr hfb
        cases hl
        intro x hx
        rcases List.mem_append.mp hx with hx | hx
        · obtain ⟨y, hy, rfl⟩ := List.mem_map.mp hx
          have := htmp y (List.mem_of_mem_take hy)
          exact ⟨this.1, mul_nonneg _ _ this.2 (ofQ_nonneg' (by decide))⟩
        · split at hfb
          · unfold nlpFallback at hfb
            dsimp only at hfb
            split at hfb
            · cases hfb
            · rename_i fb' hsf
              cases hfb
              obtain ⟨y, hy, rfl⟩ := List.mem_map.mp hx
              have hp := searchWithFuzzy_post hsf
              exact ⟨hp.real y hy, mul_nonneg _ _ (hp.nonneg y hy) (mul_nonneg _ _ (hib _) (ofQ_nonneg' (by decide)))⟩
          · cases hfb; cases hx
    exact ⟨List.length_take_le _ _, fun x hx => (hall x (mem_of_mem_take_sortDesc hx)).1,
      (sortDesc_sorted _ _).sublist (List.take_sublist _ _), fun x hx => (hall x (mem_of_mem_take_sortDesc hx)).2⟩

theorem searchWithNLP_on {fin : S → S} {T : Tuning S} {tmp : Bytes → List (Nat × S)} {db : Db} {q : Bytes} {o : Opts S}
    (hu : o.useNLP = true) :
    searchWithNLP fin T tmp db q o = match T.tfidf with
      | some rank => .ok (nlpShared db rank q (nlpLimit o.limit))
      | none => nlpTemporary fin T tmp db q o (nlpLimit o.limit) := by
  rw [searchWithNLP, hu]; rfl

theorem ids_perm_of_short {l : List (Nat × S)} {n : Nat} (h : l.length ≤ n) :
    (((sortDesc (·.2) l).take n).map (·.1)).Perm (l.map (·.1)) := by
  rw [List.take_of_length_le (by rw [length_sortDesc]; exact h)]
  exact sortDesc_map_perm _ _ _

omit [ScoreOps S] in
theorem getSuggestions_spec {T : Tuning S} {db : Db} {q : Bytes} {m : Int} {r : List Bytes} (h : getSuggestions T db q m = .ok r) :
    r.length ≤ (suggestMax m).toNat ∧ (∀ w ∈ r, w ∈ suggestionWords T.ri db) ∧
    (FuzzySortOK T → (suggestionWords T.ri db).Nodup → r.Nodup) := by
  unfold getSuggestions at h
  simp only at h
  split at h
  · cases h
  · rename_i ms hms
    cases h
    refine ⟨Nat.le_trans (List.length_filterMap_le _ _) (List.length_take_le _ _), fun w hw => ?_, fun hF hw => ?_⟩
    · obtain ⟨a, _, ha⟩ := List.mem_filterMap.mp hw
      split at ha
      · exact List.mem_of_getElem? ha
      · cases ha
    · -- the matcher reports each word once, the sort permutes, and distinct positions hold distinct words
      have hnd : (((T.fuzzySort ms).take (suggestMax m).toNat).map (·.1)).Nodup :=
        ((List.take_sublist _ _).map _).nodup
          (((hF ms).1.map _).nodup_iff.mpr ((Fuzzy.findNoSort_increasing _ _ hms).imp Nat.ne_of_lt))
      refine (List.pairwise_map.mp hnd).filterMap _ fun a a' hne b hb b' hb' heq => ?_
      subst heq
      split at hb
      · split at hb'
        · exact hne ((List.getElem?_inj (List.getElem?_eq_some_iff.mp hb).1 hw).mp (hb.trans hb'.symm))
        · cases hb'
      · cases hb

/-- `sort.Strings` of the set's keys: ascending in Go's string order, no word twice -/
theorem sortedWords_spec (l : List Bytes) :
    (Tfidf.sortWords (Tfidf.dedup l)).Pairwise (fun a b => Metrics.bytesLe a b = true) ∧
    (Tfidf.sortWords (Tfidf.dedup l)).Nodup ∧ ∀ w, w ∈ Tfidf.sortWords (Tfidf.dedup l) ↔ w ∈ l := by
  rw [Tfidf.sortWords_eq]
  refine ⟨Metrics.sortBy_sorted _ Metrics.bytesLe_total Metrics.bytesLe_trans _, ?_, ?_⟩
  · exact (Metrics.sortBy_perm _ _).nodup_iff.mpr (Tfidf.nodup_dedup l)
  · intro w
    rw [(Metrics.sortBy_perm _ _).mem_iff, Tfidf.mem_dedup]

theorem sortedWords_any_enumeration (l σ : List Bytes) (hσ : σ.Nodup) (hm : ∀ w, w ∈ σ ↔ w ∈ l) :
    Tfidf.sortWords σ = Tfidf.sortWords (Tfidf.dedup l) := by
  rw [Tfidf.sortWords_eq, Tfidf.sortWords_eq]
  apply Metrics.sortBy_perm_eq _ Metrics.bytesLe_total Metrics.bytesLe_trans Metrics.bytesLe_antisymm
  rw [List.perm_ext_iff_of_nodup hσ (Tfidf.nodup_dedup l)]
  intro w
  rw [Tfidf.mem_dedup]; exact hm w

/-- **determinism of the candidate list**: it depends only on which words were inserted into `wordSet`,
    not on the order (Go: map iteration order) in which they are enumerated -/
theorem sortedWords_set_only (l₁ l₂ : List Bytes) (h : ∀ w, w ∈ l₁ ↔ w ∈ l₂) :
    Tfidf.sortWords (Tfidf.dedup l₁) = Tfidf.sortWords (Tfidf.dedup l₂) :=
  sortedWords_any_enumeration l₂ (Tfidf.dedup l₁) (Tfidf.nodup_dedup l₁) (fun w => by rw [Tfidf.mem_dedup]; exact h w)

theorem nulToSpace_inj {a b : Bytes} (ha : (0x20 : UInt8) ∉ a) (hb : (0x20 : UInt8) ∉ b)
    (h : nulToSpace a = nulToSpace b) : a = b := by
  -- turning spaces back into NULs undoes the replacement on a string without spaces
  have inv : ∀ s : Bytes, (0x20 : UInt8) ∉ s → (nulToSpace s).map (fun c => if c == 0x20 then 0 else c) = s := by
    intro s hs
    rw [nulToSpace, List.map_map]
    refine (List.map_congr_left fun x hx => ?_).trans (List.map_id s)
    have : x ≠ 0x20 := fun e => hs (e ▸ hx)
    by_cases h0 : x = 0 <;> simp [h0, this]
  rw [← inv a ha, ← inv b hb, h]

/-- strings.Fields never yields a field with a space, strings.Trim takes a sub-string and strings.ToLower maps
    no rune to U+0020: stated as a predicate on the inserted words (monitored on the real values). -/
def SpaceFree (ri : RuneInfo) (db : Db) : Prop := ∀ w ∈ wordInsertions ri db, (0x20 : UInt8) ∉ w

theorem suggestionWords_nodup {ri : RuneInfo} {db : Db} (h : SpaceFree ri db) : (suggestionWords ri db).Nodup := by
  obtain ⟨_, hnd, hmem⟩ := sortedWords_spec (wordInsertions ri db)
  exact List.pairwise_map.mpr (hnd.imp_of_mem fun ha hb hne heq =>
    hne (nulToSpace_inj (h _ ((hmem _).mp ha)) (h _ ((hmem _).mp hb)) heq))

end Wtf.LegacyEntry
