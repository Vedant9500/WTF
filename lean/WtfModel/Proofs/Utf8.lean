import WtfModel.Basic.Utf8
import WtfModel.Proofs.ValidateUtf8
/-!
  `Basic/Utf8.lean` (bytes are `UInt8`, value by `%`) and `Model/Validate.lean` (bytes are naturals, value by `-`)
  both model `utf8.DecodeRune` / `utf8.AppendRune`.  Here: they agree (`decodeRune_cons`, `encodeRune_eq`), so
  what `Proofs/ValidateUtf8.lean` proves about the second (`decode1_spec`, `decode1_encodeScalar`) holds of the
  first; and the facts the other modules need follow from that.  `[]rune(s)` is read through `runes_rune` /
  `runes_bad` along `decode_induction`: the fuel and the offsets of `decodeAux` do not leave this file.
-/
namespace Wtf.Utf8
open Wtf.Validate (decode1 encodeScalar encodeNat scalar Rune toBytes lo3 hi3 lo4 hi4 isCont_of_window3 isCont_of_window4)

theorem toNat_ofNat_lt {n : Nat} (h : n < 256) : (UInt8.ofNat n).toNat = n := UInt8.toNat_ofNat_of_lt' h

theorem isCont_iff (b : UInt8) : isCont b = true ↔ Validate.isCont b.toNat := by
  simp [isCont, Validate.isCont, UInt8.le_iff_toNat_le]

theorem beq_ite_toNat (b k x y : UInt8) :
    (if b == k then x else y).toNat = if b.toNat = k.toNat then x.toNat else y.toNat := by
  by_cases h : b = k
  · subst h; simp
  · have : b.toNat ≠ k.toNat := fun e => h (UInt8.toNat_inj.mp e)
    simp [h, this]

theorem lo3_toNat (b0 : UInt8) : (if b0 == 0xE0 then (0xA0 : UInt8) else 0x80).toNat = lo3 b0.toNat :=
  beq_ite_toNat b0 0xE0 0xA0 0x80
theorem hi3_toNat (b0 : UInt8) : (if b0 == 0xED then (0x9F : UInt8) else 0xBF).toNat = hi3 b0.toNat :=
  beq_ite_toNat b0 0xED 0x9F 0xBF
theorem lo4_toNat (b0 : UInt8) : (if b0 == 0xF0 then (0x90 : UInt8) else 0x80).toNat = lo4 b0.toNat :=
  beq_ite_toNat b0 0xF0 0x90 0x80
theorem hi4_toNat (b0 : UInt8) : (if b0 == 0xF4 then (0x8F : UInt8) else 0xBF).toNat = hi4 b0.toNat :=
  beq_ite_toNat b0 0xF4 0x8F 0xBF

/-- masking the marker bits (`%`, Basic/Utf8) is subtracting the marker (`-`, Model/Validate) -/
theorem mod_eq_sub {b m : Nat} (k : Nat) (h : k * m ≤ b) (h' : b < (k + 1) * m) : b % m = b - k * m := by
  rw [Nat.mod_eq_sub_div_mul, Nat.div_eq_of_lt_le h h']

theorem cont_mod {b : Nat} (h : Validate.isCont b) : b % 64 = b - 0x80 := mod_eq_sub 2 h.1 (by have := h.2; omega)

theorem decodeRune_cons (b0 : UInt8) (rest : Bytes) :
    decodeRune (b0 :: rest) = (decode1 b0.toNat (rest.map (·.toNat))).map Rune.val id := by
  unfold decodeRune decode1
  simp only [UInt8.lt_iff_toNat_lt, UInt8.le_iff_toNat_le, lo3_toNat, hi3_toNat, lo4_toNat, hi4_toNat,
    Bool.and_eq_true, decide_eq_true_eq, isCont_iff, and_assoc]
  change (if b0.toNat < 128 then _ else if b0.toNat < 194 then _ else if b0.toNat < 224 then _ else
    if b0.toNat < 240 then _ else if b0.toNat < 245 then _ else _) = _
  -- `by_cases` and `rw [if_pos/if_neg]` level by level: `split` on an if-chain this size is far dearer
  by_cases h1 : b0.toNat < 128
  · rw [if_pos h1, if_pos h1]; rfl
  rw [if_neg h1, if_neg h1]
  by_cases h2 : b0.toNat < 194
  · rw [if_pos h2, if_neg (show ¬ (194 ≤ b0.toNat ∧ b0.toNat ≤ 223) by omega),
      if_neg (show ¬ (224 ≤ b0.toNat ∧ b0.toNat ≤ 239) by omega), if_neg (show ¬ (240 ≤ b0.toNat ∧ b0.toNat ≤ 244) by omega)]
    rfl
  rw [if_neg h2]
  by_cases h3 : b0.toNat < 224
  · rw [if_pos h3, if_pos (show 194 ≤ b0.toNat ∧ b0.toNat ≤ 223 by omega)]
    rcases rest with _ | ⟨b1, t⟩
    · rfl
    · simp only [List.map_cons]
      split
      · rename_i hc
        rw [mod_eq_sub 6 (by omega) (by omega), cont_mod hc]; rfl
      · rfl
  rw [if_neg h3, if_neg (show ¬ (194 ≤ b0.toNat ∧ b0.toNat ≤ 223) by omega)]
  by_cases h4 : b0.toNat < 240
  · rw [if_pos h4, if_pos (show 224 ≤ b0.toNat ∧ b0.toNat ≤ 239 by omega)]
    rcases rest with _ | ⟨b1, _ | ⟨b2, t⟩⟩
    · rfl
    · rfl
    · simp only [List.map_cons]
      split
      · rename_i hc
        rw [mod_eq_sub 14 (by omega) (by omega), cont_mod hc.2.2,
          cont_mod (isCont_of_window3 hc.1 hc.2.1)]; rfl
      · rfl
  rw [if_neg h4, if_neg (show ¬ (224 ≤ b0.toNat ∧ b0.toNat ≤ 239) by omega)]
  by_cases h5 : b0.toNat < 245
  · rw [if_pos h5, if_pos (show 240 ≤ b0.toNat ∧ b0.toNat ≤ 244 by omega)]
    rcases rest with _ | ⟨b1, _ | ⟨b2, _ | ⟨b3, t⟩⟩⟩
    · rfl
    · rfl
    · rfl
    · simp only [List.map_cons]
      split
      · rename_i hc
        rw [mod_eq_sub 30 (by omega) (by omega), cont_mod hc.2.2.1, cont_mod hc.2.2.2,
          cont_mod (isCont_of_window4 hc.1 hc.2.1)]; rfl
      · rfl
  · rw [if_neg h5, if_neg (show ¬ (240 ≤ b0.toNat ∧ b0.toNat ≤ 244) by omega)]; rfl

theorem encodeRune_eq (r : Nat) : encodeRune r = toBytes (encodeNat r) := by
  have hc : ((0xD800 ≤ r && r ≤ 0xDFFF) || r > 0x10FFFF) = !decide (scalar r) := by
    unfold scalar; rw [Bool.eq_iff_iff]; simp; omega
  unfold encodeRune encodeNat encodeScalar toBytes
  -- both sides become the same chain of tests once `List.map` is moved into the branches
  simp only [hc, apply_ite (List.map UInt8.ofNat), List.map_cons, List.map_nil]
  by_cases h : scalar r
  · simp only [h, decide_true, Bool.not_true, Bool.false_eq_true, if_false, if_true]
  · simp only [h, decide_false, Bool.not_false, if_true, if_false]; rfl

theorem toNat_encodeRune (r : Nat) : (encodeRune r).map (·.toNat) = encodeNat r := by
  rw [encodeRune_eq]; exact Validate.toNat_toBytes _ (Validate.encodeNat_lt r)

theorem toNat_encodeRune_scalar {c : Nat} (hs : scalar c) : (encodeRune c).map (·.toNat) = encodeScalar c :=
  (toNat_encodeRune c).trans (Validate.encodeNat_of_scalar hs)

theorem encodeRune_of_not_scalar {r : Nat} (h : ¬ scalar r) : encodeRune r = encodeRune 0xFFFD := by
  rw [encodeRune_eq, encodeRune_eq]; unfold encodeNat; rw [if_neg h, if_pos (by decide)]

theorem encodeRune_eq_scalar (r : Nat) : ∃ c, scalar c ∧ (0x80 ≤ r → 0x80 ≤ c) ∧ encodeRune r = encodeRune c := by
  by_cases hs : scalar r
  · exact ⟨r, hs, id, rfl⟩
  · exact ⟨0xFFFD, by decide, fun _ => by decide, encodeRune_of_not_scalar hs⟩

theorem encodeRune_ne_nil (r : Nat) : encodeRune r ≠ [] := fun e => by
  have := toNat_encodeRune r
  rw [e] at this
  unfold encodeNat at this
  split at this <;> exact Validate.encodeScalar_ne_nil _ this.symm

theorem encodeRune_ascii (r : Nat) (h : r < 128) : encodeRune r = [UInt8.ofNat r] := by
  rw [encodeRune_eq, Validate.encodeNat_of_scalar ⟨by omega, by omega⟩, Validate.encodeScalar_1 h]; rfl

theorem decodeRune_encodeRune {c : Nat} (hs : scalar c) (rest : Bytes) :
    decodeRune (encodeRune c ++ rest) = (c, (encodeRune c).length) := by
  have hm := toNat_encodeRune_scalar hs
  have hl : (encodeRune c).length = (encodeScalar c).length := by rw [← hm, List.length_map]
  obtain ⟨b0, t, e⟩ : ∃ b0 t, encodeRune c ++ rest = b0 :: t :=
    List.exists_cons_of_ne_nil fun h => encodeRune_ne_nil c (List.append_eq_nil_iff.mp h).1
  have e' : encodeScalar c ++ rest.map (·.toNat) = b0.toNat :: t.map (·.toNat) := by
    rw [← hm, ← List.map_append, e, List.map_cons]
  rw [e, decodeRune_cons, Validate.decode1_encodeScalar hs e', hl]; rfl

theorem encodeRune_multi {c : Nat} (hs : scalar c) (hc : 0x80 ≤ c) :
    ∃ b pre, encodeRune c = b :: pre ∧ pre ≠ [] ∧ 0xC0 ≤ b.toNat ∧ b.toNat ≤ 0xF4 ∧
      (∀ x ∈ pre, 0x80 ≤ x.toNat ∧ x.toNat ≤ 0xBF) ∧ ∀ t, decodeRune (b :: (pre ++ t)) = (c, pre.length + 1) := by
  have hm := toNat_encodeRune_scalar hs
  rcases Validate.encodeScalar_shape c with ⟨h, _⟩ | ⟨_, l, t, e, hne, hl, hl', ht⟩
  · omega
  match hb : encodeRune c, encodeRune_ne_nil c with
  | b :: pre, _ =>
    rw [hb, e, List.map_cons, List.cons.injEq] at hm
    have hrt := fun t => decodeRune_encodeRune hs t
    simp only [hb, List.cons_append, List.length_cons] at hrt
    refine ⟨b, pre, rfl, ?_, by omega, by have := hl' hs.1; omega, ?_, hrt⟩
    · rintro rfl
      exact hne hm.2.symm
    · intro x hx
      exact ht _ (hm.2 ▸ List.mem_map_of_mem hx)

theorem encodeRune_nonascii (r : Nat) (h : 128 ≤ r) : encodeRune r ≠ [] ∧ ∀ b ∈ encodeRune r, 128 ≤ b.toNat := by
  obtain ⟨c, hs, hc, e⟩ := encodeRune_eq_scalar r
  obtain ⟨b, pre, he, _, hb, _, hpre, _⟩ := encodeRune_multi hs (hc h)
  rw [e, he]
  exact ⟨List.cons_ne_nil _ _, List.forall_mem_cons.mpr ⟨by omega, fun x hx => (hpre x hx).1⟩⟩

theorem decodeRune_spec (b0 : UInt8) (rest : Bytes) :
    (∃ c t', scalar c ∧ b0 :: rest = encodeRune c ++ t' ∧ decodeRune (b0 :: rest) = (c, (encodeRune c).length)) ∨
    (0x80 ≤ b0.toNat ∧ decodeRune (b0 :: rest) = (runeError, 1)) := by
  rw [decodeRune_cons]
  rcases Validate.decode1_spec b0.toNat (rest.map (·.toNat)) with ⟨c, t', hs, he, hd⟩ | ⟨hge, hd⟩ <;> rw [hd]
  · have hm := toNat_encodeRune_scalar hs
    obtain ⟨l₁, l₂, e, h₁, _⟩ := List.map_eq_append_iff.mp (show (b0 :: rest).map (·.toNat) = encodeScalar c ++ t' from he)
    rw [← hm] at h₁
    have : l₁ = encodeRune c := (List.map_inj_right (fun _ _ => UInt8.toNat_inj.mp)).mp h₁
    exact .inl ⟨c, l₂, hs, this ▸ e, by rw [← hm, List.length_map]; rfl⟩
  · exact .inr ⟨hge, rfl⟩

theorem decode_induction {P : Bytes → Prop} (nil : P [])
    (rune : ∀ c t, scalar c → P t → P (encodeRune c ++ t))
    (bad : ∀ b t, 0x80 ≤ b.toNat → decodeRune (b :: t) = (runeError, 1) → P t → P (b :: t)) : ∀ s, P s := by
  intro s
  induction h : s.length using Nat.strongRecOn generalizing s with
  | _ n ih =>
    match s, h with
    | [], _ => exact nil
    | b :: rest, h =>
      rcases decodeRune_spec b rest with ⟨c, t', hs, he, _⟩ | ⟨hb, hd⟩
      · rw [he]
        have hl := congrArg List.length he
        have hp : 0 < (encodeRune c).length := List.length_pos_iff.mpr (encodeRune_ne_nil c)
        rw [List.length_append] at hl
        exact rune c t' hs (ih t'.length (by omega) t' rfl)
      · exact bad b rest hb hd (ih rest.length (by simp at h; omega) rest rfl)

theorem decodeRune_ascii (b0 : UInt8) (rest : Bytes) (h : b0.toNat < 128) : decodeRune (b0 :: rest) = (b0.toNat, 1) := by
  rw [decodeRune_cons, Validate.decode1_1 h]; rfl

theorem decodeRune_nonascii (b0 : UInt8) (rest : Bytes) (h : 128 ≤ b0.toNat) :
    1 ≤ (decodeRune (b0 :: rest)).2 ∧ (decodeRune (b0 :: rest)).2 ≤ (b0 :: rest).length ∧
    128 ≤ (decodeRune (b0 :: rest)).1 ∧ ∀ b ∈ (b0 :: rest).take (decodeRune (b0 :: rest)).2, 128 ≤ b.toNat := by
  rcases decodeRune_spec b0 rest with ⟨c, t', hs, he, hd⟩ | ⟨_, hd⟩ <;> rw [hd]
  · -- the bytes consumed are `encodeRune c`, and `c` is not ASCII because its first byte is not
    have hc : 128 ≤ c := Nat.le_of_not_lt fun hc => by
      rw [encodeRune_ascii c hc, List.singleton_append, List.cons.injEq] at he
      rw [he.1, toNat_ofNat_lt (by omega)] at h
      omega
    obtain ⟨hne, hall⟩ := encodeRune_nonascii c hc
    rw [he, List.take_left' rfl]
    exact ⟨List.length_pos_iff.mpr hne, by simp, hc, hall⟩
  · exact ⟨Nat.le_refl 1, by simp, by decide, by simpa using h⟩

theorem decodeAux_runes (fuel off : Nat) (bs : Bytes) (h : bs.length ≤ fuel) :
    (decodeAux fuel off bs).map (·.1) = runes bs := by
  induction fuel using Nat.strongRecOn generalizing off bs with
  | _ fuel ih =>
    match fuel, bs with
    | 0, [] | _ + 1, [] => rfl
    | n + 1, b :: t =>
      simp only [runes, decode, List.length_cons, decodeAux, List.map_cons]
      -- a step drops at least one byte, so the rest fits both fuels
      generalize hw : (if ((decodeRune (b :: t)).2 == 0) = true then 1 else (decodeRune (b :: t)).2) = w
      have hl : ((b :: t).drop w).length ≤ t.length := by
        have : w ≠ 0 := by subst hw; split <;> simp_all
        simp only [List.length_drop, List.length_cons]; omega
      have hn : t.length ≤ n := Nat.le_of_succ_le_succ h
      rw [ih n (Nat.lt_succ_self n) _ _ (Nat.le_trans hl hn), ih t.length (Nat.lt_succ_of_le hn) _ _ hl]

theorem runes_cons {b : UInt8} {t : Bytes} {r w : Nat} (h : decodeRune (b :: t) = (r, w + 1)) :
    runes (b :: t) = r :: runes (t.drop w) := by
  simp only [runes, decode, List.length_cons, decodeAux, h, List.map_cons]
  exact congrArg (r :: ·) (decodeAux_runes _ _ _ (by simp))

theorem runes_rune {c : Nat} (hs : scalar c) (t : Bytes) : runes (encodeRune c ++ t) = c :: runes t := by
  have hd := decodeRune_encodeRune hs t
  match he : encodeRune c, encodeRune_ne_nil c with
  | b :: pre, _ =>
    rw [he, List.cons_append, List.length_cons] at hd
    rw [List.cons_append, runes_cons hd, List.drop_left]

theorem runes_bad {b : UInt8} {t : Bytes} (h : decodeRune (b :: t) = (runeError, 1)) :
    runes (b :: t) = runeError :: runes t := runes_cons h

theorem runes_ne_nil (s : Bytes) (h : s ≠ []) : runes s ≠ [] := by
  induction s using decode_induction with
  | nil => exact absurd rfl h
  | rune c t hs => rw [runes_rune hs]; exact List.cons_ne_nil _ _
  | bad b t _ hd => rw [runes_bad hd]; exact List.cons_ne_nil _ _

/-- `[]rune(s)` of a NUL-free string contains no rune 0 (Go: `for _, r := range s` produces U+0000 only from a 0x00 byte:
    every multi-byte form decodes to a code point ≥ 0x80 and invalid bytes to U+FFFD).  Needed by C07: the typo
    matcher treats rune 0 as "end of text". -/
theorem runes_ne_zero (bs : Bytes) (hnz : ∀ b ∈ bs, b ≠ 0) : ∀ c ∈ runes bs, c ≠ 0 := by
  induction bs using decode_induction with
  | nil => exact fun _ h => nomatch h
  | rune c t hs ih =>
    rw [runes_rune hs]
    refine List.forall_mem_cons.mpr ⟨?_, ih fun b hb => hnz b (List.mem_append_right _ hb)⟩
    -- U+0000 is written as the byte 0
    rintro rfl
    exact hnz 0 (List.mem_append_left _ (List.mem_singleton.mpr rfl)) rfl
  | bad b t _ hd ih =>
    rw [runes_bad hd]
    exact List.forall_mem_cons.mpr ⟨by decide, ih fun b hb => hnz b (List.mem_cons_of_mem _ hb)⟩

end Wtf.Utf8
