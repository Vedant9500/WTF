import WtfModel.Model.Validate

/-!
  Facts about the UTF-8 decoder/encoder of `Model/Validate.lean`.  Per length, the byte tuples `decode1` accepts
  and the scalar values correspond one to one (`seq2_iff`, `seq3_iff`, `seq4_iff`); hence decoding an encoded scalar
  gives it back (`decode1_encodeScalar`, `decode_encode`) and whatever is decoded is the encoding of a scalar
  (`decode1_spec`, `decode_induction`).  Decoding distributes over `++` when the right part does not start with a
  continuation byte (`startOK`, `decodeNat_append`).
-/
namespace Wtf.Validate

theorem decodeNat_nil : decodeNat [] = [] := rfl

theorem decodeSkip_eq (n : Nat) (s : List Nat) : decodeSkip n s = decodeNat (s.drop n) := by
  induction s generalizing n with
  | nil => simp [decodeSkip, decodeNat]
  | cons b t ih =>
    cases n with
    | zero => simp [decodeNat]
    | succ n => simp [decodeSkip, ih]

theorem decodeNat_cons (b0 : Nat) (t : List Nat) :
    decodeNat (b0 :: t) = (decode1 b0 t).1 :: decodeNat (t.drop ((decode1 b0 t).2 - 1)) := by
  show decodeSkip 0 (b0 :: t) = _
  rw [decodeSkip, decodeSkip_eq]

theorem lo3_le_iff (b0 b1 : Nat) : lo3 b0 ≤ b1 ↔ 0x80 ≤ b1 ∧ (b0 = 0xE0 → 0xA0 ≤ b1) := by
  unfold lo3; split <;> omega
theorem le_hi3_iff (b0 b1 : Nat) : b1 ≤ hi3 b0 ↔ b1 ≤ 0xBF ∧ (b0 = 0xED → b1 ≤ 0x9F) := by
  unfold hi3; split <;> omega
theorem lo4_le_iff (b0 b1 : Nat) : lo4 b0 ≤ b1 ↔ 0x80 ≤ b1 ∧ (b0 = 0xF0 → 0x90 ≤ b1) := by
  unfold lo4; split <;> omega
theorem le_hi4_iff (b0 b1 : Nat) : b1 ≤ hi4 b0 ↔ b1 ≤ 0xBF ∧ (b0 = 0xF4 → b1 ≤ 0x8F) := by
  unfold hi4; split <;> omega

theorem isCont_of_window3 {b0 b1 : Nat} (h : lo3 b0 ≤ b1) (h' : b1 ≤ hi3 b0) : isCont b1 :=
  ⟨((lo3_le_iff ..).mp h).1, ((le_hi3_iff ..).mp h').1⟩
theorem isCont_of_window4 {b0 b1 : Nat} (h : lo4 b0 ≤ b1) (h' : b1 ≤ hi4 b0) : isCont b1 :=
  ⟨((lo4_le_iff ..).mp h).1, ((le_hi4_iff ..).mp h').1⟩

/- UTF-8 is a bijection, length by length: the byte tuples `decode1` accepts ↔ the scalar values.
   In each direction every byte is first written as marker + digit, so that `omega` meets no truncated
   subtraction next to the divisions (with both it is several times slower). -/

theorem seq2_iff (b0 b1 c : Nat) :
    (0xC2 ≤ b0 ∧ b0 ≤ 0xDF) ∧ isCont b1 ∧ (b0 - 0xC0) * 64 + (b1 - 0x80) = c ↔
    (0x80 ≤ c ∧ c < 0x800) ∧ b0 = 0xC0 + c / 64 ∧ b1 = 0x80 + c % 64 := by
  unfold isCont
  constructor
  · rintro ⟨⟨h0, h0'⟩, ⟨h1, h1'⟩, rfl⟩
    obtain ⟨a, rfl⟩ := Nat.exists_eq_add_of_le h0
    obtain ⟨x, rfl⟩ := Nat.exists_eq_add_of_le h1
    simp only [Nat.add_sub_cancel_left]
    omega
  · rintro ⟨h, rfl, rfl⟩
    simp only [Nat.add_sub_cancel_left]
    omega

theorem seq3_iff (b0 b1 b2 c : Nat) :
    (0xE0 ≤ b0 ∧ b0 ≤ 0xEF) ∧ (lo3 b0 ≤ b1 ∧ b1 ≤ hi3 b0 ∧ isCont b2) ∧
      (b0 - 0xE0) * 4096 + (b1 - 0x80) * 64 + (b2 - 0x80) = c ↔
    (0x800 ≤ c ∧ c < 0x10000 ∧ ¬ (0xD800 ≤ c ∧ c ≤ 0xDFFF)) ∧
      b0 = 0xE0 + c / 4096 ∧ b1 = 0x80 + c / 64 % 64 ∧ b2 = 0x80 + c % 64 := by
  rw [lo3_le_iff, le_hi3_iff]; unfold isCont
  constructor
  · rintro ⟨⟨h0, h0'⟩, ⟨⟨h1, hl⟩, ⟨h1', hh⟩, h2, h2'⟩, rfl⟩
    obtain ⟨a, rfl⟩ := Nat.exists_eq_add_of_le h0
    obtain ⟨x, rfl⟩ := Nat.exists_eq_add_of_le h1
    obtain ⟨y, rfl⟩ := Nat.exists_eq_add_of_le h2
    simp only [Nat.add_sub_cancel_left]
    omega
  · rintro ⟨h, rfl, rfl, rfl⟩
    simp only [Nat.add_sub_cancel_left]
    omega

theorem seq4_iff (b0 b1 b2 b3 c : Nat) :
    (0xF0 ≤ b0 ∧ b0 ≤ 0xF4) ∧ (lo4 b0 ≤ b1 ∧ b1 ≤ hi4 b0 ∧ isCont b2 ∧ isCont b3) ∧
      (b0 - 0xF0) * 262144 + (b1 - 0x80) * 4096 + (b2 - 0x80) * 64 + (b3 - 0x80) = c ↔
    (0x10000 ≤ c ∧ c < 0x110000) ∧
      b0 = 0xF0 + c / 262144 ∧ b1 = 0x80 + c / 4096 % 64 ∧ b2 = 0x80 + c / 64 % 64 ∧ b3 = 0x80 + c % 64 := by
  rw [lo4_le_iff, le_hi4_iff]; unfold isCont
  constructor
  · rintro ⟨⟨h0, h0'⟩, ⟨⟨h1, hl⟩, ⟨h1', hh⟩, ⟨h2, h2'⟩, h3, h3'⟩, rfl⟩
    obtain ⟨a, rfl⟩ := Nat.exists_eq_add_of_le h0
    obtain ⟨x, rfl⟩ := Nat.exists_eq_add_of_le h1
    obtain ⟨y, rfl⟩ := Nat.exists_eq_add_of_le h2
    obtain ⟨z, rfl⟩ := Nat.exists_eq_add_of_le h3
    simp only [Nat.add_sub_cancel_left]
    omega
  · rintro ⟨h, rfl, rfl, rfl, rfl⟩
    simp only [Nat.add_sub_cancel_left]
    omega

theorem encodeScalar_1 {c : Nat} (h : c < 0x80) : encodeScalar c = [c] := if_pos h
theorem encodeScalar_2 {c : Nat} (h : 0x80 ≤ c ∧ c < 0x800) : encodeScalar c = [0xC0 + c / 64, 0x80 + c % 64] := by
  unfold encodeScalar; rw [if_neg (by omega), if_pos h.2]
theorem encodeScalar_3 {c : Nat} (h : 0x800 ≤ c ∧ c < 0x10000) :
    encodeScalar c = [0xE0 + c / 4096, 0x80 + c / 64 % 64, 0x80 + c % 64] := by
  unfold encodeScalar; rw [if_neg (by omega), if_neg (by omega), if_pos h.2]
theorem encodeScalar_4 {c : Nat} (h : 0x10000 ≤ c) :
    encodeScalar c = [0xF0 + c / 262144, 0x80 + c / 4096 % 64, 0x80 + c / 64 % 64, 0x80 + c % 64] := by
  unfold encodeScalar; rw [if_neg (by omega), if_neg (by omega), if_neg (by omega)]

theorem decode1_1 {b0 : Nat} (h : b0 < 0x80) (t : List Nat) : decode1 b0 t = (.cp b0, 1) := if_pos h
theorem decode1_2 {b0 b1 : Nat} (h0 : 0xC2 ≤ b0 ∧ b0 ≤ 0xDF) (h1 : isCont b1) (t : List Nat) :
    decode1 b0 (b1 :: t) = (.cp ((b0 - 0xC0) * 64 + (b1 - 0x80)), 2) := by
  unfold decode1; rw [if_neg (by omega), if_pos h0]; exact if_pos h1
theorem decode1_3 {b0 b1 b2 : Nat} (h0 : 0xE0 ≤ b0 ∧ b0 ≤ 0xEF) (h1 : lo3 b0 ≤ b1 ∧ b1 ≤ hi3 b0 ∧ isCont b2) (t : List Nat) :
    decode1 b0 (b1 :: b2 :: t) = (.cp ((b0 - 0xE0) * 4096 + (b1 - 0x80) * 64 + (b2 - 0x80)), 3) := by
  unfold decode1; rw [if_neg (by omega), if_neg (by omega), if_pos h0]; exact if_pos h1
theorem decode1_4 {b0 b1 b2 b3 : Nat} (h0 : 0xF0 ≤ b0 ∧ b0 ≤ 0xF4)
    (h1 : lo4 b0 ≤ b1 ∧ b1 ≤ hi4 b0 ∧ isCont b2 ∧ isCont b3) (t : List Nat) :
    decode1 b0 (b1 :: b2 :: b3 :: t) =
      (.cp ((b0 - 0xF0) * 262144 + (b1 - 0x80) * 4096 + (b2 - 0x80) * 64 + (b3 - 0x80)), 4) := by
  unfold decode1; rw [if_neg (by omega), if_neg (by omega), if_neg (by omega), if_pos h0]; exact if_pos h1

theorem decode1_encodeScalar {c : Nat} (hs : scalar c) {b0 : Nat} {t t0 : List Nat} (h : encodeScalar c ++ t = b0 :: t0) :
    decode1 b0 t0 = (.cp c, (encodeScalar c).length) := by
  unfold scalar at hs
  revert h
  fun_cases encodeScalar c <;> rintro ⟨⟩
  case case1 h1 => exact decode1_1 h1 t
  case case2 h1 h2 =>
    obtain ⟨h0, h1, e⟩ := (seq2_iff _ _ c).mpr ⟨⟨by omega, h2⟩, rfl, rfl⟩
    exact (decode1_2 h0 h1 t).trans (by rw [e]; rfl)
  case case3 _ h2 h3 =>
    obtain ⟨h0, h1, e⟩ := (seq3_iff _ _ _ c).mpr ⟨⟨by omega, h3, hs.2⟩, rfl, rfl, rfl⟩
    exact (decode1_3 h0 h1 t).trans (by rw [e]; rfl)
  case case4 _ _ h3 =>
    obtain ⟨h0, h1, e⟩ := (seq4_iff _ _ _ _ c).mpr ⟨⟨by omega, hs.1⟩, rfl, rfl, rfl, rfl⟩
    exact (decode1_4 h0 h1 t).trans (by rw [e]; rfl)

theorem decode1_spec (b0 : Nat) (t : List Nat) :
    (∃ c t', scalar c ∧ b0 :: t = encodeScalar c ++ t' ∧ decode1 b0 t = (.cp c, (encodeScalar c).length)) ∨
    (0x80 ≤ b0 ∧ decode1 b0 t = (.bad b0, 1)) := by
  -- one goal per branch of `decode1`; nested `split` on the unfolded definition costs several times as much
  fun_cases decode1 b0 t
  case case1 h =>
    exact .inl ⟨b0, t, ⟨by omega, by omega⟩, by rw [encodeScalar_1 h]; exact ⟨rfl, rfl⟩⟩
  case case2 _ h0 b1 t' h1 =>
    obtain ⟨hc, e0, e1⟩ := (seq2_iff b0 b1 _).mp ⟨h0, h1, rfl⟩
    generalize (b0 - 0xC0) * 64 + (b1 - 0x80) = c at hc e0 e1 ⊢
    subst e0 e1
    exact .inl ⟨c, t', ⟨by omega, by omega⟩, by rw [encodeScalar_2 hc]; exact ⟨rfl, rfl⟩⟩
  case case5 _ _ h0 b1 b2 t' h1 =>
    obtain ⟨hc, e0, e1, e2⟩ := (seq3_iff b0 b1 b2 _).mp ⟨h0, h1, rfl⟩
    generalize (b0 - 0xE0) * 4096 + (b1 - 0x80) * 64 + (b2 - 0x80) = c at hc e0 e1 e2 ⊢
    subst e0 e1 e2
    have hc' : 0x800 ≤ c ∧ c < 0x10000 := ⟨hc.1, hc.2.1⟩
    exact .inl ⟨c, t', ⟨by omega, hc.2.2⟩, by rw [encodeScalar_3 hc']; exact ⟨rfl, rfl⟩⟩
  case case8 _ _ _ h0 b1 b2 b3 t' h1 =>
    obtain ⟨hc, e0, e1, e2, e3⟩ := (seq4_iff b0 b1 b2 b3 _).mp ⟨h0, h1, rfl⟩
    generalize (b0 - 0xF0) * 262144 + (b1 - 0x80) * 4096 + (b2 - 0x80) * 64 + (b3 - 0x80) = c at hc e0 e1 e2 e3 ⊢
    subst e0 e1 e2 e3
    exact .inl ⟨c, t', ⟨hc.2, by omega⟩, by rw [encodeScalar_4 hc.1]; exact ⟨rfl, rfl⟩⟩
  all_goals exact .inr ⟨by omega, rfl⟩

theorem isCont_mod (n : Nat) : isCont (0x80 + n % 64) :=
  ⟨Nat.le_add_right .., by have := Nat.mod_lt n (show 64 > 0 by decide); omega⟩

theorem encodeScalar_shape (c : Nat) :
    (c < 0x80 ∧ encodeScalar c = [c]) ∨
    (0x80 ≤ c ∧ ∃ l t, encodeScalar c = l :: t ∧ t ≠ [] ∧ 0xC0 ≤ l ∧ (c < 0x110000 → l ≤ 0xF4) ∧ ∀ b ∈ t, isCont b) := by
  fun_cases encodeScalar c
  · exact .inl ⟨‹_›, rfl⟩
  all_goals exact .inr ⟨by omega, _, _, rfl, List.cons_ne_nil _ _, by omega, by omega, by simp [isCont_mod]⟩

theorem encodeScalar_ne_nil (c : Nat) : encodeScalar c ≠ [] := by
  rcases encodeScalar_shape c with ⟨_, e⟩ | ⟨_, l, t, e, _⟩ <;> rw [e] <;> exact List.cons_ne_nil _ _

theorem decodeNat_encodeScalar' (c : Nat) (h : scalar c) (t : List Nat) :
    decodeNat (encodeScalar c ++ t) = .cp c :: decodeNat t := by
  obtain ⟨x, xs, e⟩ := List.exists_cons_of_ne_nil (encodeScalar_ne_nil c)
  have hd := decode1_encodeScalar h (t := t) (b0 := x) (t0 := xs ++ t) (by rw [e]; rfl)
  rw [e] at hd ⊢
  rw [List.cons_append, decodeNat_cons, hd, List.length_cons, Nat.add_sub_cancel, List.drop_left]

theorem encodeNat_of_scalar {c : Nat} (h : scalar c) : encodeNat c = encodeScalar c := if_pos h

theorem decodeNat_encodeAll (cs : List Nat) (h : ∀ c ∈ cs, scalar c) (t : List Nat) :
    decodeNat (encodeAll cs ++ t) = cs.map .cp ++ decodeNat t := by
  induction cs with
  | nil => simp [encodeAll]
  | cons c cs ih =>
    have hc := h c (by simp)
    have := ih (fun x hx => h x (by simp [hx]))
    simp only [encodeAll, List.flatMap_cons, List.append_assoc, List.map_cons, List.cons_append] at *
    rw [encodeNat_of_scalar hc, decodeNat_encodeScalar' c hc, this]

theorem encodeScalar_lt (c : Nat) (h : c < 0x110000) : ∀ b ∈ encodeScalar c, b < 256 := by
  intro b hb
  rcases encodeScalar_shape c with ⟨hc, e⟩ | ⟨_, l, t, e, _, _, hl, ht⟩ <;> rw [e] at hb
  · rw [List.mem_singleton.mp hb]; omega
  · rcases List.mem_cons.mp hb with rfl | hb
    · have := hl h; omega
    · have := ht b hb; unfold isCont at this; omega

theorem encodeNat_lt (c : Nat) : ∀ b ∈ encodeNat c, b < 256 := by
  unfold encodeNat
  split
  · rename_i h; exact encodeScalar_lt c h.1
  · exact encodeScalar_lt _ (by decide)

theorem encodeAll_lt (cs : List Nat) : ∀ b ∈ encodeAll cs, b < 256 := by
  intro b hb
  simp only [encodeAll, List.mem_flatMap] at hb
  obtain ⟨c, _, hb⟩ := hb
  exact encodeNat_lt c b hb

theorem toNat_toBytes (ns : List Nat) (h : ∀ b ∈ ns, b < 256) : (toBytes ns).map (·.toNat) = ns := by
  rw [toBytes, List.map_map]
  exact (List.map_congr_left fun n hn => UInt8.toNat_ofNat_of_lt' (h n hn)).trans (List.map_id ns)

theorem decode_encode (cs : List Nat) (h : ∀ c ∈ cs, scalar c) : decodeGo (encodeGo cs) = cs.map .cp := by
  unfold decodeGo encodeGo
  rw [toNat_toBytes _ (encodeAll_lt cs)]
  simpa [decodeNat_nil] using decodeNat_encodeAll cs h []

/-- `decode1` accepts nothing but continuation bytes after the lead: a byte that is none cuts the text like its end -/
theorem decode1_append (b0 : Nat) (t : List Nat) (h : Nat) (w : List Nat) (hh : ¬ isCont h) :
    decode1 b0 (t ++ h :: w) = decode1 b0 t := by
  have n3 (X : Prop) : ¬ (lo3 b0 ≤ h ∧ h ≤ hi3 b0 ∧ X) := fun hx => hh (isCont_of_window3 hx.1 hx.2.1)
  have n4 (X : Prop) : ¬ (lo4 b0 ≤ h ∧ h ≤ hi4 b0 ∧ X) := fun hx => hh (isCont_of_window4 hx.1 hx.2.1)
  unfold decode1
  rcases t with _ | ⟨b1, _ | ⟨b2, _ | ⟨b3, t⟩⟩⟩
  · rcases w with _ | ⟨h2, _ | ⟨h3, w⟩⟩ <;> simp only [List.nil_append, hh, n3, n4, if_false]
  · rcases w with _ | ⟨h2, w⟩ <;> simp only [List.cons_append, List.nil_append, hh, and_false, false_and, if_false]
  · simp only [List.cons_append, List.nil_append, hh, and_false, if_false]
  · rfl

theorem encodeScalar_length_pos (c : Nat) : 0 < (encodeScalar c).length :=
  List.length_pos_iff.mpr (encodeScalar_ne_nil c)

theorem decode_induction {P : List Nat → Prop} (nil : P [])
    (rune : ∀ c t', scalar c → P t' → P (encodeScalar c ++ t'))
    (bad : ∀ b0 t, 0x80 ≤ b0 → decode1 b0 t = (.bad b0, 1) → P t → P (b0 :: t)) : ∀ s, P s := by
  intro s
  generalize hn : s.length = n
  induction n using Nat.strongRecOn generalizing s with
  | _ n ih =>
    cases s with
    | nil => exact nil
    | cons b0 t =>
      rcases decode1_spec b0 t with ⟨c, t', hs, he, _⟩ | ⟨hge, hbad⟩
      · rw [he]
        refine rune c t' hs (ih t'.length ?_ t' rfl)
        have := congrArg List.length he
        have := encodeScalar_length_pos c
        simp only [List.length_append, List.length_cons] at *
        omega
      · exact bad b0 t hge hbad (ih t.length (by simp only [List.length_cons] at hn; omega) t rfl)

theorem decodeNat_bad {b0 : Nat} {t : List Nat} (h : decode1 b0 t = (.bad b0, 1)) :
    decodeNat (b0 :: t) = .bad b0 :: decodeNat t := by
  rw [decodeNat_cons, h]; simp

theorem decodeNat_length_le (s : List Nat) : (decodeNat s).length ≤ s.length := by
  induction s using decode_induction with
  | nil => simp [decodeNat_nil]
  | rune c t' hs ih =>
    rw [decodeNat_encodeScalar' c hs]
    have := encodeScalar_length_pos c
    simp only [List.length_cons, List.length_append]; omega
  | bad b0 t hge hbad ih =>
    rw [decodeNat_bad hbad]; simp only [List.length_cons]; omega

def badCount (rs : List Rune) : Nat := (rs.filter Rune.isBad).length

theorem decodeNat_scalar_out (s : List Nat) : ∀ r ∈ decodeNat s, scalar r.out := by
  induction s using decode_induction with
  | nil => exact fun _ h => nomatch h
  | rune c t' hs ih => rw [decodeNat_encodeScalar' c hs]; exact List.forall_mem_cons.mpr ⟨hs, ih⟩
  | bad b0 t _ hbad ih => rw [decodeNat_bad hbad]; exact List.forall_mem_cons.mpr ⟨(by decide : scalar Wtf.Gen.Validate.invalidRepl), ih⟩

theorem encodeNat_repl : encodeNat Wtf.Gen.Validate.invalidRepl = [Wtf.Gen.Validate.invalidRepl] := by decide

/-- Writing every rune back the way the sanitising loop of `ValidateQuery` does (a well-formed rune as its own
    bytes, an invalid byte as the one-byte replacement) gives a text of exactly the same byte length. -/
theorem encode_out_length (s : List Nat) :
    (encodeAll ((decodeNat s).map Rune.out)).length = s.length := by
  induction s using decode_induction with
  | nil => simp [decodeNat_nil, encodeAll]
  | rune c t' hs ih =>
    rw [decodeNat_encodeScalar' c hs]
    simp only [encodeAll, List.map_cons, List.flatMap_cons, List.length_append, Rune.out,
      encodeNat_of_scalar hs] at *
    omega
  | bad b0 t hge hbad ih =>
    rw [decodeNat_bad hbad]
    simp only [encodeAll, List.map_cons, List.flatMap_cons, List.length_append, Rune.out,
      encodeNat_repl, List.length_cons, List.length_nil] at *
    omega

theorem encode_decode_valid (s : List Nat) (h : ∀ r ∈ decodeNat s, r.isBad = false) :
    encodeAll ((decodeNat s).map Rune.val) = s := by
  induction s using decode_induction with
  | nil => simp [decodeNat_nil, encodeAll]
  | rune c t' hs ih =>
    rw [decodeNat_encodeScalar' c hs] at h ⊢
    have := ih (fun r hr => h r (by simp [hr]))
    simp only [encodeAll, List.map_cons, List.flatMap_cons, Rune.val, encodeNat_of_scalar hs] at *
    rw [this]
  | bad b0 t hge hbad ih =>
    rw [decodeNat_bad hbad] at h
    have := h (.bad b0) (by simp)
    simp [Rune.isBad] at this

theorem encodeScalar_ascii (c b : Nat) (hb : b < 0x80) : b ∈ encodeScalar c ↔ b = c ∧ c < 0x80 := by
  rcases encodeScalar_shape c with ⟨hc, e⟩ | ⟨hc, l, t, e, _, hl, _, ht⟩ <;> rw [e]
  · rw [List.mem_singleton]; exact ⟨fun h => ⟨h, hc⟩, fun h => h.1⟩
  · constructor
    · intro h
      rcases List.mem_cons.mp h with rfl | h
      · omega
      · have := ht b h; unfold isCont at this; omega
    · intro h; omega

/-- ASCII bytes are never part of a longer sequence and never invalid. -/
theorem ascii_mem_decode (s : List Nat) (b : Nat) (hb : b < 0x80) :
    b ∈ s ↔ ∃ r ∈ decodeNat s, r.val = b := by
  induction s using decode_induction with
  | nil => simp [decodeNat_nil]
  | rune c t' hs ih =>
    rw [decodeNat_encodeScalar' c hs]
    simp only [List.mem_append, List.mem_cons, exists_eq_or_imp, Rune.val, encodeScalar_ascii c b hb, ih]
    exact or_congr_left ⟨fun h => h.1.symm, fun h => ⟨h.symm, h ▸ hb⟩⟩
  | bad b0 t hge hbad ih =>
    rw [decodeNat_bad hbad]
    simp only [List.mem_cons, exists_eq_or_imp, Rune.val, ih]
    exact or_congr_left ⟨fun h => by omega, fun h => by omega⟩

def startOK : List Nat → Prop
  | [] => True
  | h :: _ => ¬ isCont h

theorem decodeNat_append (s w : List Nat) (hw : startOK w) : decodeNat (s ++ w) = decodeNat s ++ decodeNat w := by
  cases w with
  | nil => simp [decodeNat_nil]
  | cons h w =>
    have hh : ¬ isCont h := hw
    induction s using decode_induction with
    | nil => simp [decodeNat_nil]
    | rune c t' hs ih =>
      rw [List.append_assoc, decodeNat_encodeScalar' c hs, decodeNat_encodeScalar' c hs, ih]; rfl
    | bad b0 t hge hbad ih =>
      have : decode1 b0 (t ++ h :: w) = (.bad b0, 1) := by rw [decode1_append b0 t h w hh, hbad]
      rw [List.cons_append, decodeNat_bad this, decodeNat_bad hbad, ih]; rfl

theorem encodeScalar_head (c : Nat) : ∃ e rest, encodeScalar c = e :: rest ∧ ¬ isCont e := by
  unfold isCont
  rcases encodeScalar_shape c with ⟨hc, e⟩ | ⟨_, l, t, e, _, hl, _⟩
  · exact ⟨c, [], e, by omega⟩
  · exact ⟨l, t, e, by omega⟩

theorem startOK_encodeAll (cs : List Nat) (t : List Nat) (ht : cs = [] → startOK t) : startOK (encodeAll cs ++ t) := by
  cases cs with
  | nil => simpa [encodeAll] using ht rfl
  | cons c cs =>
    obtain ⟨e, rest, he, hc⟩ := encodeScalar_head (if scalar c then c else 0xFFFD)
    rw [encodeAll, List.flatMap_cons, encodeNat, ← apply_ite encodeScalar, he]
    exact hc

end Wtf.Validate
