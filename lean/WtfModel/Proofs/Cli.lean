import WtfModel.Proofs.CliDecimal
import WtfModel.Proofs.SearchBasic
/-
  For C17 (core Lean only).  ESC-freeness of everything the step interpreter prints: a boolean test on the regenerated
  steps (`stepCleanB`: the literals, separators and format-string runs that reach the output), evaluated on `Gen.Cli` and
  lifted through `eval`, `runStep` and `render` (`render_clean`).  The JSON items of the regenerated `jsonSteps`, by
  evaluation.  The two characterisations of `cliSearch` the property theorems rest on (`cliSearch_ok` for a run that got
  past validation, the limit check and loading; `cliSearch_block` for every run) and what the renderer prints when
  escapes are not in use (`block_clean`).
-/
set_option linter.unusedSectionVars false
namespace Wtf.Cli
open Wtf.Gen.Cli (Expr Step)
open ScoreOps

variable {S : Type} [ScoreOps S]

/-- sorted by score, non-increasing (what `sort.SliceStable(results, Score[i] > Score[j])` establishes) -/
def SortedDesc (l : List (Nat × S)) : Prop := l.Pairwise (fun a b => lt a.2 b.2 = false)

instance (l : List (Nat × S)) : Decidable (SortedDesc l) := inferInstanceAs (Decidable (l.Pairwise _))

/-- the recovery answer in closed form; the test before the cut is idle (`take` of a short list is the list, and a negative
    limit cuts to nothing either way) -/
theorem recoveryAnswer_eq (w : World S) (o : Search.Opts S) :
    recoveryAnswer w o = ((w.recovery.getD []).filter (fun r => w.gate o r.1)).take o.limit.toNat := by
  unfold recoveryAnswer
  cases w.recovery with
  | none => simp
  | some rs =>
    dsimp only [Option.getD]
    split
    · rfl
    · rw [List.take_of_length_le]
      omega

theorem limitInForce_pos (valid : Int) : 0 < limitInForce valid := by
  unfold limitInForce
  split
  · assumption
  · decide

def Clean (b : Bytes) : Prop := ESC ∉ b

instance (b : Bytes) : Decidable (Clean b) := inferInstanceAs (Decidable (ESC ∉ b))

theorem clean_nil : Clean [] := by simp [Clean]

theorem clean_append {a b : Bytes} (ha : Clean a) (hb : Clean b) : Clean (a ++ b) := by
  simp only [Clean, List.mem_append, not_or] at *
  exact ⟨ha, hb⟩

theorem clean_cons {c : UInt8} {b : Bytes} (hc : c ≠ ESC) (hb : Clean b) : Clean (c :: b) := by
  simp only [Clean, List.mem_cons, not_or] at *
  exact ⟨fun h => hc h.symm, hb⟩

theorem clean_flatten {l : List Bytes} (h : ∀ c ∈ l, Clean c) : Clean l.flatten := by
  simp only [Clean, List.mem_flatten, not_exists, not_and] at *
  intro c hc
  exact h c hc

theorem clean_take {b : Bytes} (n : Nat) (h : Clean b) : Clean (b.take n) :=
  fun hm => h (List.mem_of_mem_take hm)

theorem clean_replicate {n : Nat} {c : UInt8} (hc : c ≠ ESC) : Clean (List.replicate n c) := by
  simp only [Clean, List.mem_replicate, not_and]
  intro _ h
  exact hc h.symm

theorem clean_of_contains {b : Bytes} (h : (!b.contains ESC) = true) : Clean b := by
  simpa [Clean] using h

theorem clean_joinBytes {sep : Bytes} (hs : Clean sep) {l : List Bytes} (h : ∀ x ∈ l, Clean x) : Clean (joinBytes sep l) := by
  fun_induction joinBytes sep l with
  | case1 => exact clean_nil
  | case2 x => exact h x List.mem_cons_self
  | case3 x rest hne ih =>
    exact clean_append (clean_append (h x List.mem_cons_self) hs) (ih fun z hz => h z (List.mem_cons_of_mem _ hz))

theorem clean_badText : Clean badText := by decide

theorem intDec_clean (n : Int) : Clean (intDec n) := fun hm =>
  absurd (KeyJson.intText_numChar n ESC (intDec_eq n ▸ hm)) (by decide)

theorem pad_clean (v : Verb) {b : Bytes} (h : Clean b) : Clean (pad v b) := by
  unfold pad
  simp only []
  split
  · exact clean_append h (clean_replicate (by decide))
  · exact clean_append (clean_replicate (by decide)) h

/-- the formatters print no ESC (strconv prints digits, sign, point, `NaN`, `Inf`; encoding/json escapes every
    control character as `\u00XX`) -/
structure FmtClean (F : Fmt S) : Prop where
  float : ∀ p s, Clean (F.fmtFloat p s)
  str : ∀ b, Clean (F.jsonStr b)
  num : ∀ s, Clean (F.jsonNum s)

def ValClean : Val S → Prop
  | .bytes b => Clean b
  | .strs l => ∀ x ∈ l, Clean x
  | _ => True

def pieceCleanB : FPiece → Bool
  | .lit b => !b.contains ESC
  | .verb _ => true

def fmtCleanB (f : Bytes) : Bool := (parseFmt f).all pieceCleanB

section fmt
variable {F : Fmt S} (hF : FmtClean F)
include hF

theorem fmtOne_clean (v : Verb) {x : Val S} (hx : ValClean x) : Clean (fmtOne F v x) := by
  unfold fmtOne
  split
  · split
    · exact pad_clean v hx
    · exact clean_badText
  · split
    · exact pad_clean v (intDec_clean _)
    · exact clean_badText
  · split
    · exact pad_clean v (hF.float _ _)
    · exact clean_badText
  · exact clean_badText

theorem sprintfPieces_clean (ps : List FPiece) (args : List (Val S)) (hp : ∀ p ∈ ps, pieceCleanB p = true)
    (ha : ∀ a ∈ args, ValClean a) : ∀ c ∈ sprintfPieces F ps args, Clean c := by
  fun_induction sprintfPieces F ps args with
  | case1 => nofun
  | case2 => exact List.forall_mem_singleton.mpr clean_badText
  | case3 b ps args ih =>
    obtain ⟨hb, hp⟩ := List.forall_mem_cons.mp hp
    exact List.forall_mem_cons.mpr ⟨clean_of_contains hb, ih hp ha⟩
  | case4 v ps ih => exact List.forall_mem_cons.mpr ⟨clean_badText, ih (List.forall_mem_cons.mp hp).2 ha⟩
  | case5 v ps a args ih =>
    obtain ⟨ha0, ha⟩ := List.forall_mem_cons.mp ha
    exact List.forall_mem_cons.mpr ⟨fmtOne_clean hF v ha0, ih (List.forall_mem_cons.mp hp).2 ha⟩

theorem sprintf_clean {f : Bytes} (hf : fmtCleanB f = true) {args : List (Val S)}
    (ha : ∀ a ∈ args, ValClean a) : Clean (sprintf F f args) :=
  clean_flatten (sprintfPieces_clean hF _ _ (List.all_eq_true.mp hf) ha)

end fmt

/-- the literals, separators and formats that reach the bytes of the value are ESC-free (lengths, comparisons and
    connectives yield no bytes: what is under them is not looked at) -/
def exprCleanB : Expr → Bool
  | .lit b => !b.contains ESC
  | .join e sep => exprCleanB e && !sep.contains ESC
  | .sprintf f e => exprCleanB e && fmtCleanB f
  | .pfx e _ => exprCleanB e
  | .add a b | .appendAll a b => exprCleanB a && exprCleanB b
  | _ => true

/-- what a step prints or stores is ESC-free (its guards only yield booleans) -/
def stepCleanB : Step → Bool
  | .print _ _ f args => fmtCleanB f && args.all exprCleanB
  | .assign _ _ _ v => exprCleanB v
  | .emit _ _ => true

def DocClean (d : Doc) : Prop :=
  Clean d.command ∧ Clean d.description ∧ Clean d.niche ∧ (∀ x ∈ d.keywords, Clean x) ∧ (∀ x ∈ d.platform, Clean x)

structure EnvClean (env : REnv S) : Prop where
  colors : ∀ kv ∈ env.colors, Clean kv.2
  locals : ∀ kv ∈ env.locals, ValClean kv.2
  doc : DocClean env.doc
  F : FmtClean env.F

theorem lookup_prop {α : Type} {P : α → Prop} (k : String) (l : List (String × α)) (hl : ∀ kv ∈ l, P kv.2) (v : α)
    (h : lookup k l = some v) : P v := by
  fun_induction lookup k l with
  | case1 => cases h
  | case2 k' v' rest hk => exact Option.some.inj h ▸ (List.forall_mem_cons.mp hl).1
  | case3 k' v' rest hk ih => exact ih (List.forall_mem_cons.mp hl).2 h

theorem setKey_prop {α : Type} {P : α → Prop} (k : String) (v : α) (hv : P v) (l : List (String × α))
    (hl : ∀ kv ∈ l, P kv.2) : ∀ kv ∈ setKey k v l, P kv.2 := by
  fun_induction setKey k v l with
  | case1 => exact List.forall_mem_singleton.mpr hv
  | case2 k' v' rest hk => exact List.forall_mem_cons.mpr ⟨hv, (List.forall_mem_cons.mp hl).2⟩
  | case3 k' v' rest hk ih =>
    exact List.forall_mem_cons.mpr ⟨(List.forall_mem_cons.mp hl).1, ih (List.forall_mem_cons.mp hl).2⟩

theorem ValClean.ite {c : Prop} [Decidable c] {a b : Val S} (ha : ValClean a) (hb : ValClean b) : ValClean (if c then a else b) := by
  split
  · exact ha
  · exact hb

theorem ValClean.lookup {l : List (String × Val S)} (hl : ∀ kv ∈ l, ValClean kv.2) (k : String) {d : Val S} (hd : ValClean d) :
    ValClean (match lookup k l with | some v => v | none => d) := by
  split
  · exact lookup_prop (P := ValClean) _ _ hl _ (by assumption)
  · exact hd

theorem zeroOf_clean (t : String) : ValClean (zeroOf S t) :=
  .ite clean_nil (.ite (by simp [ValClean]) (.ite trivial (.ite trivial (.ite trivial trivial))))

structure StClean (st : RState S) : Prop where
  out : ∀ c ∈ st.out, Clean c
  locals : ∀ kv ∈ st.locals, ValClean kv.2

theorem preSteps_sublist (steps : List Step) : (preSteps steps).Sublist steps := List.takeWhile_sublist _
theorem loopSteps_sublist (steps : List Step) : (loopSteps steps).Sublist steps :=
  (List.takeWhile_sublist _).trans (List.dropWhile_sublist _)
theorem postSteps_sublist (steps : List Step) : (postSteps steps).Sublist steps :=
  (List.dropWhile_sublist _).trans (List.dropWhile_sublist _)

section env
variable {env : REnv S} (h : EnvClean env)
include h

theorem selVal_clean (p : String) : ValClean (selVal env p) := by
  obtain ⟨h1, h2, h3, h4, h5⟩ := h.doc
  -- one `.ite` per selector, in the order of the `if` chain of `selVal`
  refine .ite h1 (.ite h2 (.ite h3 (.ite h4 (.ite h5 (.ite trivial (.ite trivial (.lookup h.locals p ?_)))))))
  split
  · exact zeroOf_clean _
  · trivial

theorem varVal_clean (n : String) : ValClean (varVal env n) := by
  refine .lookup h.locals n ?_
  split
  · exact lookup_prop (P := fun (c : Bytes) => Clean c) _ _ h.colors _ (by assumption)
  · exact .ite trivial (.ite trivial trivial)

theorem eval_clean : ∀ (e : Expr), exprCleanB e = true → ValClean (eval env e)
  | .lit b, he => clean_of_contains he
  | .var n, _ => varVal_clean h n
  | .sel p, _ => selVal_clean h p
  | .int _, _ | .unknown _, _ => trivial
  | .nil, _ => nofun
  -- these produce an integer, a boolean or `bad`: no bytes
  | .len _, _ | .gt _ _, _ | .ne _ _, _ | .not _, _ => by
    simp only [eval]
    split <;> trivial
  | .and a b, _ => by
    simp only [eval]
    split
    · trivial
    · split <;> trivial
    · trivial
  | .add a b, he => by
    obtain ⟨ha, hb⟩ := Bool.and_eq_true_iff.mp he
    simp only [eval]
    split
    · trivial
    · rename_i x y hx hy
      exact clean_append (hx ▸ eval_clean a ha :) (hy ▸ eval_clean b hb :)
    · trivial
  | .pfx e hi, he => by
    simp only [eval]
    split
    · rename_i b hb
      exact .ite (clean_take _ (hb ▸ eval_clean e he :)) trivial
    · trivial
  | .join e sep, he => by
    obtain ⟨ha, hs⟩ := Bool.and_eq_true_iff.mp he
    simp only [eval]
    split
    · rename_i l hl
      exact clean_joinBytes (clean_of_contains hs) (hl ▸ eval_clean e ha :)
    · trivial
  | .sprintf f e, he => by
    obtain ⟨ha, hf⟩ := Bool.and_eq_true_iff.mp he
    exact sprintf_clean h.F hf (List.forall_mem_singleton.mpr (eval_clean e ha))
  | .appendAll a b, he => by
    obtain ⟨ha, hb⟩ := Bool.and_eq_true_iff.mp he
    simp only [eval]
    split
    · rename_i x y hx hy
      exact List.forall_mem_append.mpr ⟨(hx ▸ eval_clean a ha :), (hy ▸ eval_clean b hb :)⟩
    · trivial

theorem runStep_clean {st : RState S} (hs : StClean st) (s : Step) (hc : stepCleanB s = true) :
    StClean (runStep env st s) := by
  have he : EnvClean { env with locals := st.locals } := ⟨h.colors, hs.locals, h.doc, h.F⟩
  cases s with
  | print l gs f args =>
    obtain ⟨hf, ha⟩ := Bool.and_eq_true_iff.mp hc
    simp only [runStep]
    split
    · have hp := sprintf_clean h.F hf (List.forall_mem_map.mpr fun e hem => eval_clean he e (List.all_eq_true.mp ha e hem))
      exact ⟨List.forall_mem_append.mpr ⟨hs.out, List.forall_mem_singleton.mpr hp⟩, hs.locals⟩
    · exact hs
  | assign l gs t v =>
    simp only [runStep]
    split
    · exact ⟨hs.out, setKey_prop (P := ValClean) t _ (eval_clean he v hc) _ hs.locals⟩
    · exact hs
  | emit l gs =>
    simp only [runStep]
    split
    · exact ⟨hs.out, hs.locals⟩
    · exact hs

theorem runSteps_clean (steps : List Step) {st : RState S} (hs : StClean st)
    (hc : ∀ s ∈ steps, stepCleanB s = true) : StClean (runSteps env st steps) :=
  List.foldlRecOn steps _ hs fun _ hst s hm => runStep_clean h hst s (hc s hm)

theorem iterate_clean {locals : List (String × Val S)} (hl : ∀ kv ∈ locals, ValClean kv.2) {steps : List Step}
    (hs : ∀ s ∈ steps, stepCleanB s = true) (docs : Nat → Doc) :
    ∀ (i : Nat) (rs : List (Nat × S)), (∀ r ∈ rs, DocClean (docs r.1)) → ∀ st ∈ iterate env locals steps docs i rs, ∀ c ∈ st.out, Clean c
  | _, [], _ => by simp [iterate]
  | i, r :: rs, hd => by
    obtain ⟨hr, hd⟩ := List.forall_mem_cons.mp hd
    have he : EnvClean { env with idx := i, doc := docs r.1, score := r.2 } := ⟨h.colors, h.locals, hr, h.F⟩
    exact List.forall_mem_cons.mpr ⟨(runSteps_clean he (loopSteps steps) ⟨by simp, hl⟩ fun s hm => hs s ((loopSteps_sublist steps).subset hm)).out,
      iterate_clean hl hs docs (i + 1) rs hd⟩

theorem render_clean {steps : List Step} (hs : ∀ s ∈ steps, stepCleanB s = true) (docs : Nat → Doc) (rs : List (Nat × S))
    (hd : ∀ r ∈ rs, DocClean (docs r.1)) : ∀ c ∈ (render env steps docs rs).chunks, Clean c := by
  have hpre := runSteps_clean h (preSteps steps) (st := {}) ⟨nofun, nofun⟩ fun s hm => hs s ((preSteps_sublist steps).subset hm)
  have hpost := runSteps_clean h (postSteps steps) (st := { locals := (runSteps env {} (preSteps steps)).locals })
    ⟨nofun, hpre.locals⟩ fun s hm => hs s ((postSteps_sublist steps).subset hm)
  intro c hm
  simp only [render, List.mem_append, List.mem_flatMap] at hm
  rcases hm with (hm | ⟨st, hst, hm⟩) | hm
  · exact hpre.out c hm
  · exact iterate_clean h hpre.locals hs docs 0 rs hd st hst c hm
  · exact hpost.out c hm

end env

/-- members of the JSON object printed for one result: (name, value), in order -/
def expectedMembers (verbose : Bool) (d : Doc) (s : S) : List (String × Val S) :=
  [("command", .bytes d.command), ("description", .bytes d.description)]
  ++ (if verbose && !d.keywords.isEmpty then [("keywords", .strs d.keywords)] else [])
  ++ (if !d.niche.isEmpty then [("category", .bytes d.niche)] else [])
  ++ (if verbose && !d.platform.isEmpty then [("platforms", .strs d.platform)] else [])
  ++ (if verbose && !isZeroScore s then [("score", .score s)] else [])

/-- the variables in scope when `out = append(out, it)` runs, as the regenerated `jsonSteps` leave them -/
def theItem (verbose : Bool) (d : Doc) (s : S) : Item S :=
  if verbose then
    [("it.Command", .bytes d.command), ("it.Description", .bytes d.description), ("it.Keywords", .strs ([] ++ d.keywords)),
     ("it.Category", .bytes d.niche), ("it.Platforms", .strs ([] ++ d.platform)), ("it.Score", .score s)]
  else
    [("it.Command", .bytes d.command), ("it.Description", .bytes d.description), ("it.Keywords", .strs []),
     ("it.Category", .bytes d.niche), ("it.Platforms", .strs [])]

theorem pre_json : preSteps Gen.Cli.jsonSteps = [] := rfl
theorem post_json : postSteps Gen.Cli.jsonSteps = [] := rfl

theorem jsonIter_items (env : REnv S) (docs : Nat → Doc) (i : Nat) (r : Nat × S) :
    (runIter env [] Gen.Cli.jsonSteps docs i r).items = [theItem env.verbose (docs r.1) r.2] := by
  obtain ⟨colors, verbose, count, F, locals, idx, doc, score⟩ := env
  cases verbose <;> rfl

theorem iterate_items_json (env : REnv S) (docs : Nat → Doc) : ∀ (i : Nat) (rs : List (Nat × S)),
    (iterate env [] Gen.Cli.jsonSteps docs i rs).flatMap (·.items) = rs.map (fun r => theItem env.verbose (docs r.1) r.2)
  | _, [] => by simp [iterate]
  | i, r :: rs => by
    simp only [iterate, List.flatMap_cons, List.map_cons, jsonIter_items, iterate_items_json env docs (i + 1) rs]
    rfl

theorem render_json_items (env : REnv S) (docs : Nat → Doc) (rs : List (Nat × S)) :
    (render env Gen.Cli.jsonSteps docs rs).items = rs.map (fun r => theItem env.verbose (docs r.1) r.2) := by
  simp only [render, pre_json, post_json, runSteps, List.foldl_nil, List.nil_append, List.append_nil]
  exact iterate_items_json env docs 0 rs

theorem isZeroScore_zero (h0 : lt (zero : S) zero = false) : isZeroScore (zero : S) = true := by
  simp [isZeroScore, h0]

theorem objFields_theItem (verbose : Bool) (d : Doc) (s : S) (hz0 : isZeroScore (zero : S) = true) :
    objFields Gen.Cli.jsonFields (theItem verbose d s) = expectedMembers verbose d s := by
  obtain ⟨c, de, n, ks, ps⟩ := d
  cases verbose
  all_goals
    simp only [objFields, Gen.Cli.jsonFields, List.flatMap_cons, List.flatMap_nil, itemField, theItem, Bool.false_eq_true, ↓reduceIte]
    simp only [lookup, String.reduceBEq, Bool.false_eq_true, ↓reduceIte, zeroOf]
    cases hz : isZeroScore s <;> simp [isEmptyVal, expectedMembers, hz, hz0]

theorem nl_clean (depth : Nat) : Clean (nl depth) :=
  clean_cons (by decide) (clean_append (by decide) (clean_flatten fun c hc => List.eq_of_mem_replicate hc ▸ (by decide)))

theorem encSeq_clean {op cl : UInt8} (ho : op ≠ ESC) (hc : cl ≠ ESC) (depth : Nat) {elems : List Bytes} (h : ∀ e ∈ elems, Clean e) :
    Clean (encSeq op cl depth elems) := by
  unfold encSeq
  split
  · exact clean_cons ho (clean_cons hc clean_nil)
  · exact clean_append (clean_append (clean_append (clean_append (clean_cons ho clean_nil) (nl_clean _))
      (clean_joinBytes (clean_cons (by decide) (nl_clean _)) h)) (nl_clean _)) (clean_cons hc clean_nil)

theorem encVal_clean {F : Fmt S} (hF : FmtClean F) (depth : Nat) (v : Val S) : Clean (encVal F depth v) := by
  cases v with
  | bytes b => exact hF.str b
  | score s => exact hF.num s
  | strs l =>
    exact encSeq_clean (by decide) (by decide) _ (List.forall_mem_map.mpr fun x _ => hF.str x)
  | int n => exact intDec_clean n
  | bool b =>
    cases b
    · show Clean (bs "false"); decide
    · show Clean (bs "true"); decide
  | sliceLen n => show Clean (bs "null"); decide
  | bad => show Clean (bs "null"); decide

theorem jsonNames_clean : ∀ f ∈ Gen.Cli.jsonFields, ESC ∉ bs f.jsonName := by decide +kernel

theorem encodeItems_clean {F : Fmt S} (hF : FmtClean F) (items : List (Item S)) : Clean (encodeItems F items) := by
  unfold encodeItems
  refine clean_append (encSeq_clean (by decide) (by decide) 0 (List.forall_mem_map.mpr fun it _ => ?_)) (clean_cons (by decide) clean_nil)
  refine encSeq_clean (by decide) (by decide) _ (List.forall_mem_map.mpr fun kv hkv => ?_)
  obtain ⟨f, hf, hname⟩ := objFields_names _ _ kv hkv
  have hn : Clean (bs kv.1) := by rw [hname]; exact jsonNames_clean f hf
  exact clean_append (clean_append (clean_append (by decide) hn) (by decide)) (encVal_clean hF _ _)

theorem listSteps_clean : Gen.Cli.listSteps.all stepCleanB = true := by decide +kernel
theorem tableSteps_clean : Gen.Cli.tableSteps.all stepCleanB = true := by decide +kernel

section pipeline
variable (fl : Flags) (w : World S)

/-- the inner test of `answer` is idle: an empty recovery answer and the empty engine answer are the same list -/
theorem answer_eq (limit : Int) :
    answer fl w limit = if (w.engine (cliOpts fl limit w.boosts)).isEmpty then recoveryAnswer w (cliOpts fl limit w.boosts)
      else w.engine (cliOpts fl limit w.boosts) := by
  unfold answer
  dsimp only
  split
  · rename_i he
    split
    · rename_i hr
      rw [List.isEmpty_iff.mp he, List.isEmpty_iff.mp hr]
    · rfl
  · rfl

theorem answer_length_le {limit : Int} (hpos : 0 ≤ limit)
    (hEngine : ((w.engine (cliOpts fl limit w.boosts)).length : Int) ≤ limit) :
    ((answer fl w limit).length : Int) ≤ limit := by
  rw [answer_eq]
  split
  · rw [recoveryAnswer_eq, List.length_take]
    show ((min limit.toNat _ : Nat) : Int) ≤ limit
    omega
  · exact hEngine

theorem answer_sorted {limit : Int} (hEng : SortedDesc (w.engine (cliOpts fl limit w.boosts)))
    (hRec : ∀ rs, w.recovery = some rs → SortedDesc rs) : SortedDesc (answer fl w limit) := by
  rw [answer_eq]
  split
  · have hs : SortedDesc (w.recovery.getD []) := by
      cases hr : w.recovery with
      | none => exact List.Pairwise.nil
      | some rs => exact hRec rs hr
    rw [recoveryAnswer_eq]
    exact hs.sublist ((List.take_sublist _ _).trans List.filter_sublist)
  · exact hEng

theorem cliSearch_block :
    ((cliSearch fl w).stage ≠ .printed ∧ (cliSearch fl w).results = [] ∧ (cliSearch fl w).block = [] ∧ (cliSearch fl w).jsonItems = []) ∨
    ((cliSearch fl w).stage = .printed ∧
      ((cliSearch fl w).block, (cliSearch fl w).jsonItems) = renderBlock fl w (formatOf fl.format) (cliSearch fl w).results) := by
  unfold cliSearch
  cases w.vquery with
  | error e => simp
  | ok q =>
    cases Validate.validateLimit fl.limit with
    | error m => simp
    | ok valid =>
      dsimp only
      split
      · simp
      · split <;> simp

/-- a run that passed validation, the limit check and loading (`sortDesc [] = []` covers the nothing-found leaf) -/
theorem cliSearch_ok {q : Bytes} {valid : Int}
    (hq : w.vquery = .ok q) (hl : Validate.validateLimit fl.limit = .ok valid) (hload : w.loadOk = true) :
    (cliSearch fl w).results = Search.sortDesc (·.2) (answer fl w (limitInForce valid)) ∧
    (cliSearch fl w).histAdd = some ⟨q, w.now, (answer fl w (limitInForce valid)).length, w.ctxDesc, w.duration⟩ ∧
    (cliSearch fl w).histAfter = (cliSearch fl w).histAdd.map (History.add w.hist) ∧
    ((answer fl w (limitInForce valid)).isEmpty = false → (cliSearch fl w).stage = .printed) := by
  simp only [cliSearch, hq, hl, hload]
  cases he : (answer fl w (limitInForce valid)).isEmpty with
  | true => simp [List.isEmpty_iff.mp he, Search.sortDesc]
  | false => simp

/-- Of the score arithmetic the JSON items need one fact, that an unset `score` member counts as zero and is omitted: it
    holds of the integers and floats the model is run on, which are not `ScoreLaws`. -/
theorem cliSearch_json (h0 : lt (zero : S) zero = false) (hf : formatOf fl.format = .json) :
    (cliSearch fl w).jsonItems.map (objFields Gen.Cli.jsonFields)
      = (cliSearch fl w).results.map (fun r => expectedMembers fl.verbose (w.docs r.1) r.2) ∧
    (cliSearch fl w).jsonItems.length = (cliSearch fl w).results.length ∧
    ((cliSearch fl w).stage = .printed → (cliSearch fl w).block = encodeItems w.F (cliSearch fl w).jsonItems) := by
  rcases cliSearch_block fl w with ⟨hs, hr, _, hi⟩ | ⟨_, hb⟩
  · rw [hr, hi]
    exact ⟨rfl, rfl, fun h => absurd h hs⟩
  · rw [hf] at hb
    obtain ⟨hb, hi⟩ := Prod.mk.inj hb
    have hi' : (cliSearch fl w).jsonItems = (cliSearch fl w).results.map (fun r => theItem fl.verbose (w.docs r.1) r.2) :=
      hi.trans (render_json_items _ _ _)
    refine ⟨?_, by rw [hi', List.length_map], fun _ => hb.trans (congrArg _ hi.symm)⟩
    rw [hi', List.map_map]
    exact List.map_congr_left (fun r _ => objFields_theItem _ _ _ (isZeroScore_zero h0))

/-- without colour the render environment holds no ESC: the colour variables are all empty -/
theorem renderEnv_clean (hno : noColorInForce fl w = true) (hF : FmtClean w.F) (n : Nat) : EnvClean (renderEnv fl w n) := by
  refine ⟨?_, nofun, ⟨clean_nil, clean_nil, clean_nil, nofun, nofun⟩, hF⟩
  intro kv hkv
  simp only [renderEnv, effColors, hno, ↓reduceIte, List.mem_map] at hkv
  obtain ⟨x, _, rfl⟩ := hkv
  exact clean_nil

theorem renderBlock_text {fmt : Format} (h : fmt ≠ .json) (rs : List (Nat × S)) :
    renderBlock fl w fmt rs = ((render (renderEnv fl w rs.length) (stepsOf fmt) w.docs rs).chunks.flatten, []) := by
  unfold renderBlock
  split
  · exact absurd rfl h
  · rfl

/-- The renderer prints no ESC when escapes are not in use (colour off, or JSON).  JSON needs nothing of the database
    fields (the string encoder escapes them); list and table print them raw. -/
theorem renderBlock_clean {fmt : Format} (h : noColorInForce fl w = true ∨ fmt = .json) (hF : FmtClean w.F)
    {rs : List (Nat × S)} (hd : fmt ≠ .json → ∀ r ∈ rs, DocClean (w.docs r.1)) : Clean (renderBlock fl w fmt rs).1 := by
  by_cases hj : fmt = .json
  · subst hj
    exact encodeItems_clean hF _
  · rw [renderBlock_text fl w hj]
    have hs : (stepsOf fmt).all stepCleanB = true := by
      cases fmt
      · exact listSteps_clean
      · exact tableSteps_clean
      · exact absurd rfl hj
    exact clean_flatten (render_clean (renderEnv_clean fl w (h.resolve_right hj) hF _) (List.all_eq_true.mp hs) w.docs rs (hd hj))

/-- the same of the block of any run (`usesEscapes = false`) -/
theorem block_clean (h : noColorInForce fl w = true ∨ formatOf fl.format = .json) (hF : FmtClean w.F)
    (hdb : formatOf fl.format ≠ .json → ∀ r ∈ (cliSearch fl w).results, DocClean (w.docs r.1)) :
    Clean (cliSearch fl w).block := by
  rcases cliSearch_block fl w with ⟨_, _, hb, _⟩ | ⟨_, hb⟩
  · rw [hb]
    exact clean_nil
  · rw [show (cliSearch fl w).block = _ from congrArg Prod.fst hb]
    exact renderBlock_clean fl w h hF hdb

end pipeline

end Wtf.Cli
