import WtfModel.Proofs.History

/-! C16: the invariant of operation histories.  Tool-produced ones (`Op.Ok`: no `setFile`, a new process asks for a limit `Q`
    accepts; `OpsValid`: the entry each `add` builds, at the clock reading it runs at, is one the codec round-trips) keep `Inv`:
    the state in memory is `Good` for the reference log, the file is what `Save` wrote for an earlier such state (`FileInv`).
    With arbitrary file contents (`setFile`) what remains is that the limit stays positive and no `add` panics (`run_pos`). -/
namespace Wtf.History

section
variable {F : Type} (C : Codec F)

def Op.Valid (valid : Bytes → Prop) : Op F → Prop
  | .add q _ c _ _ => valid q ∧ valid c
  | _ => True

def Op.ValidAt (valid : Bytes → Prop) (okT okI : Int → Prop) (clock : Int) : Op F → Prop
  | .add q r c d dt => valid q ∧ valid c ∧ okT (clock + dt) ∧ okI r ∧ okI d
  | _ => True

def Op.clockAfter (clock : Int) : Op F → Int
  | .add _ _ _ _ dt => clock + dt
  | _ => clock

def OpsValid (valid : Bytes → Prop) (okT okI : Int → Prop) : Int → List (Op F) → Prop
  | _, [] => True
  | c, op :: ops => op.ValidAt valid okT okI c ∧ OpsValid valid okT okI (op.clockAfter c) ops

theorem Op.Valid.validAt {valid : Bytes → Prop} {op : Op F} (h : op.Valid valid) (c : Int) :
    op.ValidAt valid (fun _ => True) (fun _ => True) c := by
  cases op with
  | add q r ctx d dt => exact ⟨h.1, h.2, trivial, trivial, trivial⟩
  | _ => trivial

theorem OpsValid.of_forall {valid : Bytes → Prop} (ops : List (Op F)) (c : Int) (h : ∀ op ∈ ops, op.Valid valid) :
    OpsValid valid (fun _ => True) (fun _ => True) c ops := by
  induction ops generalizing c with
  | nil => trivial
  | cons op ops ih =>
    exact ⟨(h op List.mem_cons_self).validAt c, ih _ (fun o ho => h o (List.mem_cons_of_mem _ ho))⟩

theorem specStep_clock (x : Spec) (op : Op F) : (specStep x op).clock = op.clockAfter x.clock := by
  cases op <;> rfl

/-- what is known about the on-disk file in a tool-produced history: it is what `Save` wrote for some
    earlier state `snap` of this very history -/
def FileInv (valid : Bytes → Prop) (okT okI : Int → Prop) (Q : Int → Prop) (clock : Int) (file : Option F) (saved : Option (List Core)) : Prop :=
  (file = none ∧ saved = none) ∨
  ∃ (snap : State) (L : List Core), file = some (saveBytes C snap) ∧ saved = some L ∧ Q snap.maxSize ∧
    (snap.entries.length : Int) ≤ snap.maxSize ∧ Chrono clock snap.entries ∧ (∀ e ∈ snap.entries, e.Valid valid okT okI) ∧
    snap.entries.map Entry.core = lastN snap.maxSize.toNat L

/-- `Q` is what is known about every limit that occurs (in memory and in the file): at least positivity;
    `(· = M)` when every process asks for the same size. -/
structure Inv (valid : Bytes → Prop) (okT okI : Int → Prop) (Q : Int → Prop) (y : Sys F) (x : Spec) : Prop where
  max : Q y.h.maxSize
  bounded : (y.h.entries.length : Int) ≤ y.h.maxSize
  chrono : Chrono y.clock y.h.entries
  validE : ∀ e ∈ y.h.entries, e.Valid valid okT okI
  refines : y.h.entries.map Entry.core = lastN y.h.maxSize.toNat x.log
  clock : x.clock = y.clock
  file : FileInv C valid okT okI Q y.clock y.file x.saved

/-- operations of tool-produced histories; a new process must ask for a size `Q` accepts -/
def Op.Ok (P : Params) (Q : Int → Prop) : Op F → Prop
  | .setFile _ => False
  | .restart m => Q (new P m).maxSize
  | _ => True

variable {C} {valid : Bytes → Prop} {okT okI Q : Int → Prop} {y : Sys F} {x : Spec}

theorem FileInv.mono {c c' : Int} {file : Option F} {saved : Option (List Core)}
    (h : FileInv C valid okT okI Q c file saved) (hc : c ≤ c') : FileInv C valid okT okI Q c' file saved := by
  rcases h with h | ⟨snap, L, h1, h2, g⟩
  · exact .inl h
  · exact .inr ⟨snap, L, h1, h2, Good.mono g hc⟩

theorem FileInv.load (L : Codec.LawsOn C valid okT okI) (P : Params) (hQ : ∀ k, Q k → 0 < k) (hQI : ∀ k, Q k → okI k)
    {c : Int} {file : Option F} {saved : Option (List Core)} (hf : FileInv C valid okT okI Q c file saved)
    {s : State} {Ls : List Core} (g : Good valid okT okI Q c s Ls) :
    Good valid okT okI Q c (load C P s file).1 (saved.getD Ls) := by
  rcases hf with ⟨rfl, rfl⟩ | ⟨snap, Lg, rfl, rfl, gs⟩
  · exact g
  · rw [load_saveBytes L P s snap (hQ _ gs.1) (hQI _ gs.1) gs.2.2.2.1]
    exact gs

theorem Inv.good (h : Inv C valid okT okI Q y x) : Good valid okT okI Q y.clock y.h x.log :=
  ⟨h.max, h.bounded, h.chrono, h.validE, h.refines⟩

theorem Good.inv (g : Good valid okT okI Q y.clock y.h x.log)
    (hc : x.clock = y.clock) (hf : FileInv C valid okT okI Q y.clock y.file x.saved) : Inv C valid okT okI Q y x :=
  ⟨g.1, g.2.1, g.2.2.1, g.2.2.2.1, g.2.2.2.2, hc, hf⟩

theorem run_append {P : Params} {ops1} (ops2 : List (Op F)) {a b : Sys F} (h : run C P a ops1 = .ok b) :
    run C P a (ops1 ++ ops2) = run C P b ops2 := by
  fun_induction run C P a ops1 with
  | case1 y => cases h; rfl
  | case2 y op ops y' hs ih => rw [List.cons_append, run, hs]; exact ih h
  | case3 y op ops p hs => cases h

theorem Inv.load_save (L : Codec.LawsOn C valid okT okI) (P : Params)
    (hQ : ∀ k, Q k → 0 < k) (hQI : ∀ k, Q k → okI k) (h : Inv C valid okT okI Q y x) (r : State) :
    load C P r (some (saveBytes C y.h)) = (y.h, none) :=
  load_saveBytes L P r y.h (hQ _ h.max) (hQI _ h.max) h.validE

variable (C)

theorem step_inv {valid : Bytes → Prop} {okT okI : Int → Prop} (L : Codec.LawsOn C valid okT okI) (P : Params) {Q : Int → Prop} (hQ : ∀ k, Q k → 0 < k) (hQI : ∀ k, Q k → okI k)
    {y : Sys F} {x : Spec} (h : Inv C valid okT okI Q y x) (op : Op F) (ht : op.Ok P Q) (hv : op.ValidAt valid okT okI y.clock) :
    ∃ y', step C P y op = .ok y' ∧ Inv C valid okT okI Q y' (specStep x op) := by
  have hpos : 0 < y.h.maxSize := hQ _ h.max
  have g := h.good
  cases op with
  | setFile f => exact ht.elim
  | restart m => exact ⟨_, rfl, Good.inv (Good.empty ht (hQ _ ht) _) h.clock h.file⟩
  | add q r c d dt =>
    have hle : y.clock ≤ y.clock + (dt : Int) := by omega
    have ga := g.add hpos (e := ⟨q, y.clock + dt, r, c, d⟩) hle hv
    refine ⟨⟨⟨_, y.h.maxSize⟩, y.file, y.clock + dt⟩, by rw [step, add_eq hpos], ?_⟩
    refine Good.inv ?_ (by simp only [specStep, h.clock]) (h.file.mono hle)
    simp only [specStep, h.clock]
    exact ga
  | save => exact ⟨_, rfl, Good.inv g h.clock (.inr ⟨_, _, rfl, rfl, g⟩)⟩
  | load => exact ⟨_, rfl, Good.inv (h.file.load L P hQ hQI g) h.clock h.file⟩
  | clear =>
    have g0 : Good valid okT okI Q y.clock (clear y.h) [] := Good.empty h.max hpos _
    exact ⟨_, rfl, Good.inv g0 h.clock (.inr ⟨_, _, rfl, rfl, g0⟩)⟩

theorem run_inv {valid : Bytes → Prop} {okT okI : Int → Prop} (L : Codec.LawsOn C valid okT okI) (P : Params) {Q : Int → Prop} (hQ : ∀ k, Q k → 0 < k) (hQI : ∀ k, Q k → okI k)
    (ops : List (Op F)) {y : Sys F} {x : Spec} (h : Inv C valid okT okI Q y x)
    (ht : ∀ op ∈ ops, op.Ok P Q) (hv : OpsValid valid okT okI y.clock ops) :
    ∃ y', run C P y ops = .ok y' ∧ Inv C valid okT okI Q y' (specRun x ops) := by
  induction ops generalizing y x with
  | nil => exact ⟨y, rfl, h⟩
  | cons op ops ih =>
    obtain ⟨y1, h1, hi1⟩ := step_inv C L P hQ hQI h op (ht op (by simp)) hv.1
    have hc : y1.clock = op.clockAfter y.clock := by rw [← hi1.clock, specStep_clock, h.clock]
    obtain ⟨y2, h2, hi2⟩ := ih hi1 (fun o ho => ht o (by simp [ho])) (hc ▸ hv.2)
    refine ⟨y2, ?_, ?_⟩
    · simp only [run, h1, h2]
    · simpa [specRun] using hi2

theorem init_inv (P : Params) (m t0 : Int) (hq : Q (new P m).maxSize)
    (hpos : 0 < (new P m).maxSize) :
    Inv C valid okT okI Q (init P m t0 : Sys F) ⟨[], none, t0⟩ :=
  Good.inv (Good.empty hq hpos t0) rfl (.inl ⟨rfl, rfl⟩)

theorem Op.ok_of_isTool {P : Params} {ops : List (Op F)} (ht : ∀ op ∈ ops, op.isTool = true)
    (hr : ∀ m, .restart m ∈ ops → Q (new P m).maxSize) : ∀ op ∈ ops, op.Ok P Q := by
  intro op ho
  cases op with
  | setFile f => exact absurd (ht _ ho) (by simp [Op.isTool])
  | restart m => exact hr m ho
  | _ => trivial

/-! ### arbitrary file contents: the limit stays positive, no add panics (no codec laws needed) -/

theorem step_pos (P : Params) (hP : ParamsOk P) {y : Sys F} (h : 0 < y.h.maxSize) (op : Op F) :
    ∃ y', step C P y op = .ok y' ∧ 0 < y'.h.maxSize := by
  cases op with
  | add q r c d dt => rw [step, add_eq h]; exact ⟨_, rfl, h⟩
  | load => exact ⟨_, rfl, load_maxSize_pos C hP y.h h y.file⟩
  | restart m => exact ⟨_, rfl, new_maxSize_pos hP m⟩
  | _ => exact ⟨_, rfl, h⟩

theorem run_pos (P : Params) (hP : ParamsOk P) (ops : List (Op F)) {y : Sys F} (h : 0 < y.h.maxSize) :
    ∃ y', run C P y ops = .ok y' ∧ 0 < y'.h.maxSize := by
  induction ops generalizing y with
  | nil => exact ⟨y, rfl, h⟩
  | cons op ops ih =>
    obtain ⟨y1, h1, hp1⟩ := step_pos C P hP h op
    obtain ⟨y2, h2, hp2⟩ := ih hp1
    exact ⟨y2, by simp only [run, h1, h2], hp2⟩

end

end Wtf.History
