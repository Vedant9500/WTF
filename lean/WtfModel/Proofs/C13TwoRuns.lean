import WtfModel.Proofs.C13ScoreMap
import WtfModel.Proofs.SearchPaths
/-
  C13, engine half: two runs of `search` that differ only in the boost map.  Every stage after the score map acts on
  each score separately, so an entry of the answer is `postScore` of an entry of the score map (`mem_lexicalTail`,
  Proofs/SearchPaths.lean).  The two runs take the same exit (`search_two_runs`); on the lexical one the two scores of
  a document are related by any relation that the score maps have and `postScore` respects (`search_rel`): never lower
  and untouched are its instances.
-/
namespace Wtf.C13
open Wtf.Search ScoreOps ScoreLaws

variable {S : Type} [ScoreOps S]
variable (T : Tuning S) (db : Db) (q : Bytes) (o : Opts S)

theorem postScore_withBoosts (B : List (Bytes × S)) :
    postScore T (withBoosts o B) = postScore T o := rfl

section mono
variable [ScoreLaws S]

theorem ge_ite_mul {p : Prop} [Decidable p] {a b f : S} (h : ge a b) (hf : p → Nonneg f) :
    ge (if p then mul a f else a) (if p then mul b f else b) := by
  split
  · rename_i hp; exact mul_le_mul_right _ _ _ h (hf hp)
  · exact h

theorem collectScore_mono (pq : Option (NlpOut S)) (d : Nat) (c : Cmd)
    (hib : ∀ n, pq = some n → Nonneg (n.intentBoost d)) {a b : S} (h : ge a b) :
    ge (collectScore T o pq d c a) (collectScore T o pq d c b) := by
  unfold collectScore
  -- the pipeline boost applies only when it is positive
  refine ge_ite_mul ?_ fun hp => pos_nonneg (Bool.and_eq_true _ _ ▸ hp).2
  cases pq with
  | none => exact h
  | some n =>
    exact ge_ite_mul (mul_le_mul_right a b _ h (hib n rfl)) fun _ => ofQ_nonneg coocFactor (by decide) (by decide)

theorem rerankScore_mono (nq : Bytes) (k d : Nat) {a b : S} (h : ge a b) :
    ge (rerankScore T nq k d a) (rerankScore T nq k d b) := by
  unfold rerankScore blend
  split
  · exact h
  · split
    · exact add_le_add_right _ _ _ h
    · exact h

theorem postScore_mono (nq : Bytes) (pq : Option (NlpOut S)) (k d : Nat) (c : Cmd)
    (hib : ∀ n, pq = some n → Nonneg (n.intentBoost d)) (hcb : ∀ n, pq = some n → Nonneg (n.cascade d))
    {a b : S} (h : ge a b) : ge (postScore T o nq pq k d c a) (postScore T o nq pq k d c b) := by
  unfold postScore
  simp only
  have h1 := collectScore_mono T o pq d c hib h
  have h2 : ge (if o.useNLP then rerankScore T nq k d (collectScore T o pq d c a) else collectScore T o pq d c a)
      (if o.useNLP then rerankScore T nq k d (collectScore T o pq d c b) else collectScore T o pq d c b) := by
    split
    · exact rerankScore_mono T nq k d h1
    · exact h1
  cases pq with
  | none => exact h2
  | some n => exact mul_le_mul_right _ _ _ h2 (hcb n rfl)

end mono

def lexAnswer (T : Tuning S) (db : Db) (q : Bytes) (o : Opts S) (B : List (Bytes × S)) : List (Nat × S) :=
  lexicalTail T db (withBoosts o B) (T.normQ q) (pqOf T o (T.normQ q)) (effLimit o) (scoresOf T db q (withBoosts o B))

/-- the typo fallback does not read the boosts: in its closed form the request enters through `Kept` only, that is
    through its filter and its threshold -/
theorem fallback_indep (B B' : List (Bytes × S)) :
    fallback T db q (withBoosts o B) = fallback T db q (withBoosts o B') := by
  unfold fallback
  rw [fuzzySearch_eq, fuzzySearch_eq]
  rfl

theorem two_exits {α ε : Type} (c : Bool) (X Y : α) (A : Except ε α) :
    orElse (if c then none else some X) A = orElse (if c then none else some Y) A ∨
    (orElse (if c then none else some X) A = .ok X ∧ orElse (if c then none else some Y) A = .ok Y) := by
  cases c
  · exact Or.inr ⟨rfl, rfl⟩
  · exact Or.inl rfl

/-- Two runs that differ only in the context boosts take the same path: either both fall back (typo
    search or empty answer) and then return the very same value — the fallback does not read the
    boosts —, or both answer from the index. -/
theorem search_two_runs (B B' : List (Bytes × S)) :
    (search T db q (withBoosts o B) = search T db q (withBoosts o B')) ∨
    (search T db q (withBoosts o B) = .ok (lexAnswer T db q o B) ∧
     search T db q (withBoosts o B') = .ok (lexAnswer T db q o B')) := by
  have e : (Search.scoresOf T db q (withBoosts o B)).isEmpty = (Search.scoresOf T db q (withBoosts o B')).isEmpty := by
    rw [Bool.eq_iff_iff, List.isEmpty_iff_length_eq_zero, List.isEmpty_iff_length_eq_zero]
    exact Eq.to_iff (congrArg (· = 0) (scoresOf_length T db q o B B'))
  rw [search_eq, search_eq, fallback_indep T db q o B B', lexical_eq, lexical_eq, e]
  -- a lemma about the shape, not `rfl` on the `if`s: the kernel would first try to identify the two lexical answers
  exact two_exits _ _ _ _

theorem lexAnswer_same_ids (B B' : List (Bytes × S))
    (hlim : (scoresOf T db q (withBoosts o B)).length ≤ effLimit o) :
    ((lexAnswer T db q o B).map (·.1)).Perm ((lexAnswer T db q o B').map (·.1)) := by
  have p1 := ids_lexicalTail_perm T db (withBoosts o B) (T.normQ q) (pqOf T o (T.normQ q)) (scoresOf_inv T db q o B) hlim
  have p2 := ids_lexicalTail_perm T db (withBoosts o B') (T.normQ q) (pqOf T o (T.normQ q)) (scoresOf_inv T db q o B')
    (scoresOf_length T db q o B B' ▸ hlim)
  rw [scoresOf_keys T db q o B B'] at p1
  exact p1.trans p2.symm

/-- **one simulation for all clauses**: if the score maps of the two runs are related entry by entry by `E`, and the
    per-document later stages (`postScore`, which does not read the boosts) respect `E`, then the two scores of a
    document that both answers list are related by `E`.  On the exits that do not read the boosts the two answers are
    equal, so a reflexive `E` is enough there. -/
theorem search_rel (B B' : List (Bytes × S)) {E : Nat → S → S → Prop} (hrefl : ∀ d s, E d s s)
    (hm : MapRel E (scoresOf T db q (withBoosts o B)) (scoresOf T db q (withBoosts o B')))
    (hpost : ∀ k d c a b, E d a b →
      E d (postScore T o (T.normQ q) (pqOf T o (T.normQ q)) k d c a) (postScore T o (T.normQ q) (pqOf T o (T.normQ q)) k d c b))
    {rB r0 : List (Nat × S)} (h1 : search T db q (withBoosts o B) = .ok rB) (h2 : search T db q (withBoosts o B') = .ok r0)
    {d : Nat} {sB s0 : S} (hdB : scoreOf rB d = some sB) (hd0 : scoreOf r0 d = some s0) : E d sB s0 := by
  rcases search_two_runs T db q o B B' with h | ⟨e1, e2⟩
  · rw [h, h2] at h1; cases h1
    rw [hdB] at hd0; cases hd0
    exact hrefl d sB
  · rw [e1] at h1; rw [e2] at h2; cases h1; cases h2
    obtain ⟨a, c, ha, hc, hsB⟩ := mem_lexicalTail (scoreOf_mem hdB)
    obtain ⟨b, c', hb, hc', hs0⟩ := mem_lexicalTail (scoreOf_mem hd0)
    rw [hc] at hc'; cases hc'
    -- the two windows have the same length: the maps have the same keys, and `collect` keeps them all
    rw [hsB, hs0, postScore_withBoosts, postScore_withBoosts, length_collect _ (scoresOf_inv T db q o B),
      length_collect _ (scoresOf_inv T db q o B'), scoresOf_length T db q o B B']
    exact hpost _ d c a b (hm.lookup (keysSorted_nodup (scoresOf_inv T db q o B).1) ha hb)

/-- evaluation helper for the non-vacuity examples (`List.mergeSort` does not reduce in the kernel):
    NLP off and the collected list already in descending score order -/
theorem search_nlpOff_of_sorted (hn : o.useNLP = false)
    (M L : List (Nat × S)) (hM : Search.scoresOf T db q o = M)
    (hne : M.isEmpty = false) (hc : collect T db o none M = L) (hs : L.Pairwise (fun a b => lt a.2 b.2 = false)) :
    search T db q o = .ok (L.take (effLimit o)) := by
  rw [search_eq, lexical_eq, hM, hne]
  simp only [Bool.false_eq_true, ↓reduceIte, orElse, lexicalTail, cascadeOpt, rerankOpt, pqOf_off hn, hn, hc,
    sortDesc_of_sorted hs]

end Wtf.C13
