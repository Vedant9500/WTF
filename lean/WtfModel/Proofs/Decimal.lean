import WtfModel.Model.KeyJson

/-!
  The decimal digits of a natural number (`KeyJson.natDigits`): they are digits, there is at least one, and reading them
  back gives the number; the text of an integer (`KeyJson.intText`, strconv.AppendInt) lies in the number alphabet and
  determines the integer.  Core Lean only.
-/
namespace Wtf.KeyJson

def digitVal (ds : Bytes) : Nat := ds.foldl (fun n c => n * 10 + (c.toNat - 48)) 0

theorem digitVal_append (ds : Bytes) (c : UInt8) : digitVal (ds ++ [c]) = digitVal ds * 10 + (c.toNat - 48) := by
  simp [digitVal, List.foldl_append]

theorem natDigits_lt {n : Nat} (h : n < 10) : natDigits n = [UInt8.ofNat (48 + n)] := by
  rw [natDigits, if_pos h]

theorem natDigits_ge {n : Nat} (h : ¬ n < 10) : natDigits n = natDigits (n / 10) ++ [UInt8.ofNat (48 + n % 10)] := by
  rw [natDigits, if_neg h]

theorem digitVal_natDigits (n : Nat) : digitVal (natDigits n) = n := by
  induction n using natDigits.induct with
  | case1 n h =>
    rw [natDigits_lt h]
    simp only [digitVal, List.foldl, UInt8.toNat_ofNat']
    omega
  | case2 n h ih =>
    rw [natDigits_ge h, digitVal_append, ih, UInt8.toNat_ofNat']
    omega

theorem natDigits_inj {n m : Nat} (h : natDigits n = natDigits m) : n = m := by
  rw [← digitVal_natDigits n, ← digitVal_natDigits m, h]

theorem natDigits_digit (n : Nat) : ∀ c ∈ natDigits n, 48 ≤ c.toNat ∧ c.toNat ≤ 57 := by
  induction n using natDigits.induct with
  | case1 n h =>
    rw [natDigits_lt h]
    intro c hc
    rw [List.mem_singleton.mp hc, UInt8.toNat_ofNat']
    omega
  | case2 n h ih =>
    rw [natDigits_ge h]
    intro c hc
    rcases List.mem_append.mp hc with hc | hc
    · exact ih c hc
    · rw [List.mem_singleton.mp hc, UInt8.toNat_ofNat']
      omega

theorem natDigits_ne_nil (n : Nat) : natDigits n ≠ [] := by
  rw [natDigits]; split <;> simp

theorem natDigits_numChar (n : Nat) : ∀ c ∈ natDigits n, numChar c = true := by
  intro c hc
  have := natDigits_digit n c hc
  simp [numChar, this.1, this.2]

theorem intText_numChar (i : Int) : ∀ c ∈ intText i, numChar c = true := by
  intro c hc
  unfold intText at hc
  split at hc
  · rw [List.mem_cons] at hc
    cases hc with
    | inl h => subst h; decide
    | inr h => exact natDigits_numChar _ c h
  · exact natDigits_numChar _ c hc

theorem natDigits_ne_minus (n : Nat) (t : Bytes) : natDigits n ≠ 0x2D :: t := fun e => by
  have := natDigits_digit n 0x2D (by rw [e]; simp)
  simp at this

theorem intText_inj {i j : Int} (h : intText i = intText j) : i = j := by
  unfold intText at h
  split at h <;> split at h
  · have := natDigits_inj (List.cons.inj h).2
    omega
  · exact absurd h.symm (natDigits_ne_minus _ _)
  · exact absurd h (natDigits_ne_minus _ _)
  · have := natDigits_inj h
    omega

end Wtf.KeyJson
