import WtfModel.Model.LegacyEntry
import WtfModel.Proofs.ScoreLaws
import WtfModel.Proofs.IndexAssoc
import WtfModel.Proofs.ListBasics
/-
  Lemmas about the modelled legacy scorer (Model/LegacyScore.lean): every summand, factor and bonus is a
  non-negative regenerated constant, so `calculateScore` is non-negative as soon as the caller's context
  boosts are; with a negative boost it can be negative (witness in Props/C01b.lean) — which is why every
  entry point admits a result only after `score > 0`.  Core Lean only.
-/
namespace Wtf.LegacyScore
open ScoreOps ScoreLaws Index

variable {S : Type} [ScoreOps S]

def QNonneg (q : Q) : Prop := 0 ≤ q.num ∧ 0 < q.den

instance (q : Q) : Decidable (QNonneg q) := by unfold QNonneg; infer_instance

theorem ofQ_nonneg' [ScoreLaws S] {q : Q} (h : QNonneg q) : Nonneg (ofQ q : S) := ofQ_nonneg q h.1 h.2

/-! ### regenerated literals are non-negative (re-checked on every run: `decide` over Gen.LegacyScore at each use) -/

/-- every value in the category rule table (the helpers get*Boost) is non-negative -/
def rulesNonneg : List (List Gen.LegacyScore.Atom × Q) → Bool
  | [] => true
  | (_, v) :: rest => decide (QNonneg v) && rulesNonneg rest

theorem category_table_nonneg :
    Gen.LegacyScore.categoryRules.all (fun r => rulesNonneg r.2.1 && decide (QNonneg r.2.2)) = true := by decide

theorem evalRules_nonneg (cl : Bytes) : ∀ (rules : List (List Gen.LegacyScore.Atom × Q)) (d : Q),
    rulesNonneg rules = true → QNonneg d → QNonneg (evalRules cl rules d)
  | [], d, _, hd => hd
  | (atoms, v) :: rest, d, h, hd => by
    simp only [rulesNonneg, Bool.and_eq_true, decide_eq_true_eq] at h
    simp only [evalRules]
    split
    · exact h.1
    · exact evalRules_nonneg cl rest d h.2 hd

theorem categoryBoostQ_nonneg (w cl : Bytes) : QNonneg (categoryBoostQ w cl) := by
  unfold categoryBoostQ
  split
  · rename_i ws rules d hf
    have hm := List.mem_of_find?_eq_some hf
    have := List.all_eq_true.mp category_table_nonneg _ hm
    simp only [Bool.and_eq_true, decide_eq_true_eq] at this
    exact evalRules_nonneg cl rules d this.1 this.2
  · exact (by decide)

variable [ScoreLaws S]

theorem commandScore_nonneg (w cl : Bytes) : Nonneg (commandScore w cl : S) := by
  unfold commandScore
  exact ite_nonneg (ofQ_nonneg' (by decide)) (ite_nonneg (ofQ_nonneg' (by decide))
    (ite_nonneg (ofQ_nonneg' (by decide)) (ite_nonneg (ofQ_nonneg' (by decide)) zero_nonneg)))

theorem domainScore_nonneg (ri : RuneInfo) (w : Bytes) (c : Cmd) : Nonneg (domainScore ri w c : S) := by
  unfold domainScore
  exact ite_nonneg (ofQ_nonneg' (by decide)) zero_nonneg

theorem listScore_nonneg (w : Bytes) (items : List Bytes) {e p : Q} (he : QNonneg e) (hp : QNonneg p) :
    Nonneg (listScore w items e p : S) := by
  unfold listScore
  exact ite_nonneg (ofQ_nonneg' he) (ite_nonneg (ofQ_nonneg' hp) zero_nonneg)

theorem keywordScore_nonneg (w : Bytes) (ks : List Bytes) : Nonneg (keywordScore w ks : S) :=
  listScore_nonneg w ks (by decide) (by decide)

theorem tagScore_nonneg (w : Bytes) (ts : List Bytes) : Nonneg (tagScore w ts : S) :=
  listScore_nonneg w ts (by decide) (by decide)

theorem descriptionScore_nonneg (w d : Bytes) : Nonneg (descriptionScore w d : S) := by
  unfold descriptionScore
  exact ite_nonneg (ofQ_nonneg' (by decide)) (ite_nonneg (ofQ_nonneg' (by decide)) zero_nonneg)

theorem wordScore_nonneg (ri : RuneInfo) (w : Bytes) (c : Cmd) : Nonneg (wordScore ri w c : S) := by
  unfold wordScore
  exact add_nonneg _ _ (add_nonneg _ _ (add_nonneg _ _ (add_nonneg _ _ (add_nonneg _ _ zero_nonneg
    (commandScore_nonneg _ _)) (domainScore_nonneg _ _ _)) (keywordScore_nonneg _ _)) (descriptionScore_nonneg _ _))
    (tagScore_nonneg _ _)

theorem categoryBoost_nonneg (ri : RuneInfo) (c : Cmd) (words : List Bytes) : Nonneg (categoryBoost ri c words : S) :=
  foldl_preserves (P := Nonneg) (fun _ _ hb => mul_nonneg _ _ hb (ofQ_nonneg' (categoryBoostQ_nonneg _ _))) words
    (ofQ_nonneg' (by decide))

theorem completeness_nonneg (n m : Nat) {s : S} (hs : Nonneg s) : Nonneg (completeness n m s) := by
  unfold completeness
  split
  · rename_i h
    simp only [Bool.and_eq_true, decide_eq_true_eq] at h
    apply mul_nonneg _ _ hs
    apply add_nonneg _ _ (ofQ_nonneg' (by decide))
    exact mul_nonneg _ _ (div_nonneg _ _ (ofNat_nonneg m) (ofNat_pos n (by omega)))
      (ofQ_nonneg' (by decide))
  · exact hs

theorem matchBonus_nonneg (mx : S) {s : S} (hs : Nonneg s) : Nonneg (matchBonus mx s) := by
  unfold matchBonus
  split
  · exact mul_nonneg _ _ hs (ofQ_nonneg' (by decide))
  · split
    · exact mul_nonneg _ _ hs (ofQ_nonneg' (by decide))
    · exact hs

/-- what the theorems need of `finiteScore`: it keeps non-negative scores non-negative (it is the
    identity except at +Inf, which becomes math.MaxFloat64) -/
def FinOK (fin : S → S) : Prop := ∀ x, Nonneg x → Nonneg (fin x)

omit [ScoreLaws S] in
theorem finOK_id : FinOK (fun x : S => x) := fun _ h => h

def BoostsNonneg (boosts : List (Bytes × S)) : Prop := ∀ kv ∈ boosts, Nonneg kv.2

section
variable (ri : RuneInfo) {boosts : List (Bytes × S)} (hb : BoostsNonneg boosts) (c : Cmd)
include hb

theorem stepWord_nonneg (a : Acc S) (ha : Nonneg a.score) (w : Bytes) : Nonneg (stepWord ri boosts c a w).score := by
  unfold stepWord
  split
  · exact ha
  · simp only
    apply add_nonneg _ _ ha
    split
    · rename_i b hl
      exact mul_nonneg _ _ (wordScore_nonneg ri w c) (hb _ (look_mem hl))
    · exact wordScore_nonneg ri w c

theorem scoreLoop_nonneg (words : List Bytes) : Nonneg (scoreLoop ri boosts c words).score :=
  foldl_preserves (P := fun a => Nonneg a.score) (fun a w ha => stepWord_nonneg ri hb c a ha w) words zero_nonneg

theorem nicheBoost_nonneg {s : S} (hs : Nonneg s) : Nonneg (nicheBoost ri boosts c s) := by
  unfold nicheBoost
  split
  · exact hs
  · split
    · rename_i b hl
      apply mul_nonneg _ _ hs
      apply add_nonneg _ _ (ofQ_nonneg' (by decide))
      exact mul_nonneg _ _ (hb _ (look_mem hl)) (ofQ_nonneg' (by decide))
    · exact hs

theorem rawScore_nonneg (words : List Bytes) : Nonneg (rawScore ri boosts c words) := by
  unfold rawScore
  exact nicheBoost_nonneg ri hb c (mul_nonneg _ _
    (matchBonus_nonneg _ (completeness_nonneg _ _ (scoreLoop_nonneg ri hb c words))) (categoryBoost_nonneg ri c words))

theorem calculateScore_nonneg {fin : S → S} (hf : FinOK fin) (words : List Bytes) :
    Nonneg (calculateScore fin ri boosts c words) :=
  hf _ (rawScore_nonneg ri hb c words)

end

end Wtf.LegacyScore
