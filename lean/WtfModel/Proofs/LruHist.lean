import WtfModel.Proofs.Lru

/-! The LRU model along a history (C12).  What a lookup may return: every cached entry holds what an abstract log of the
    latest store per key holds for its key (`Agree`, kept by every step).  The counters: one lemma about the fields other
    than the entries and the tick (`step_fields`), the hit and miss counters being a function of the visible outcomes (`tally`).
    Core Lean only. -/
namespace Wtf.Lru

set_option linter.unusedSectionVars false
variable {κ ν : Type} [DecidableEq κ]

/-- Abstract log: key ↦ (value most recently stored, time of that store); forgotten on delete / clear. -/
def latestStep (m : κ → Option (ν × Int)) (now : Int) : Op κ ν → (κ → Option (ν × Int))
  | .put k v => fun k' => if k' = k then some (v, now) else m k'
  | .delete k => fun k' => if k' = k then none else m k'
  | .clear => fun _ => none
  | _ => m

def latest : List (Int × Op κ ν) → (κ → Option (ν × Int)) → (κ → Option (ν × Int))
  | [], m => m
  | (now, op) :: rest, m => latest rest (latestStep m now op)

def Mono : Int → List (Int × Op κ ν) → Prop
  | _, [] => True
  | t, (now, _) :: rest => t ≤ now ∧ Mono now rest

def Agree (s : State κ ν) (m : κ → Option (ν × Int)) (t : Int) : Prop :=
  ∀ e ∈ s.entries, m e.key = some (e.val, e.stored) ∧ e.created ≤ e.stored ∧ e.stored ≤ t

theorem Agree.keep {s : State κ ν} {m m' : κ → Option (ν × Int)} {t t'} (h : Agree s m t) (ht : t ≤ t')
    {e : Entry κ ν} (he : e ∈ s.entries) (hm : m' e.key = m e.key) :
    m' e.key = some (e.val, e.stored) ∧ e.created ≤ e.stored ∧ e.stored ≤ t' :=
  have ⟨a, b, c⟩ := h e he
  ⟨hm.trans a, b, Int.le_trans c ht⟩

theorem step_agree {s : State κ ν} {m t} (h : Agree s m t) (now : Int) (ht : t ≤ now) (op : Op κ ν) :
    Agree (step s now op).1 (latestStep m now op) now := by
  intro e' he'
  cases op with
  | get k =>
    obtain ⟨e, he, heq⟩ := mem_get he'
    rw [heq]
    exact h.keep ht (e := e) he rfl
  | put k v =>
    rcases mem_put he' with ⟨he, hk⟩ | ⟨hk, hv, hs, hc⟩
    · exact h.keep ht he (if_neg hk)
    · refine ⟨(if_pos hk).trans (by rw [hv, hs]), ?_, Int.le_of_eq hs⟩
      rcases hc with hc | ⟨e, he, hc⟩
      · rw [hc, hs]; exact Int.le_refl _
      · obtain ⟨_, b, c⟩ := h e he
        rw [hc, hs]; exact Int.le_trans b (Int.le_trans c ht)
  | delete k =>
    obtain ⟨he, hk⟩ := mem_delete.mp he'
    exact h.keep ht he (if_neg hk)
  | clear => exact nomatch he'
  | cleanup => exact h.keep ht (mem_cleanup he') rfl
  | size | stats | keys => exact h.keep ht he' rfl

theorem run_agree {s : State κ ν} {m t} (h : Agree s m t) (hist : List (Int × Op κ ν)) (hm : Mono t hist) :
    ∃ t', Agree (final s hist) (latest hist m) t' := by
  induction hist generalizing s m t with
  | nil => exact ⟨t, h⟩
  | cons a rest ih =>
    obtain ⟨now, op⟩ := a
    exact ih (step_agree h now hm.1 op) hm.2

def tallyStep (a : Nat × Nat) : Op κ ν → Out κ ν → Nat × Nat
  | .get _, .val (some _) => (a.1 + 1, a.2)
  | .get _, .val none => (a.1, a.2 + 1)
  | .clear, _ => (0, 0)
  | _, _ => a

def tally : Nat × Nat → List (Int × Op κ ν) → List (Out κ ν) → Nat × Nat
  | a, (_, op) :: rest, o :: os => tally (tallyStep a op o) rest os
  | a, _, _ => a

def evDelta (s : State κ ν) : Op κ ν → Nat
  | .put k _ => if find? k s.entries = none ∧ s.entries.length = s.cap then 1 else 0
  | _ => 0

theorem step_fields (s : State κ ν) (now : Int) (op : Op κ ν) :
    ((step s now op).1.cap = s.cap ∧ (step s now op).1.ttl = s.ttl) ∧
    ((step s now op).1.hits, (step s now op).1.misses) = tallyStep (s.hits, s.misses) op (step s now op).2 ∧
    (Inv s → (step s now op).1.evictions = (match op with | .clear => 0 | _ => s.evictions + evDelta s op)) := by
  cases op with
  | get k =>
    simp only [step]
    rcases get_spec s now k with ⟨hg, _⟩ | ⟨e, _, _, hg⟩ <;> rw [hg] <;> exact ⟨⟨rfl, rfl⟩, rfl, fun _ => rfl⟩
  | put k v =>
    simp only [step, evDelta]
    rcases put_spec s now k v with ⟨e, hf, hp⟩ | ⟨hf, ⟨hroom, hp⟩ | ⟨hfull, hp⟩⟩ <;> rw [hp] <;>
      refine ⟨⟨rfl, rfl⟩, rfl, fun h => ?_⟩
    · rw [if_neg fun hc => by rw [hf] at hc; cases hc.1]; rfl
    · rw [if_neg fun hc => Nat.ne_of_lt hroom hc.2]; rfl
    · rw [if_pos ⟨hf, Nat.le_antisymm h.bounded hfull⟩]
  | delete k => simp only [step]; rw [delete_fst]; exact ⟨⟨rfl, rfl⟩, rfl, fun _ => rfl⟩
  | cleanup =>
    obtain ⟨kept, removed, _, hc, _⟩ := cleanup_spec s now
    simp only [step]; rw [hc]; exact ⟨⟨rfl, rfl⟩, rfl, fun _ => rfl⟩
  | clear | size | stats | keys => exact ⟨⟨rfl, rfl⟩, rfl, fun _ => rfl⟩

theorem run_cap (s : State κ ν) (hist : List (Int × Op κ ν)) :
    (final s hist).cap = s.cap ∧ (final s hist).ttl = s.ttl := by
  induction hist generalizing s with
  | nil => exact ⟨rfl, rfl⟩
  | cons a rest ih =>
    obtain ⟨now, op⟩ := a
    have h1 := (step_fields s now op).1
    have h2 := ih (s := (step s now op).1)
    exact ⟨h2.1.trans h1.1, h2.2.trans h1.2⟩

theorem run_tally (s : State κ ν) (hist : List (Int × Op κ ν)) :
    ((final s hist).hits, (final s hist).misses) = tally (s.hits, s.misses) hist (run s hist).2 := by
  induction hist generalizing s with
  | nil => rfl
  | cons a rest ih =>
    obtain ⟨now, op⟩ := a
    simp only [final, run, tally]
    rw [← (step_fields s now op).2.1]
    exact ih (s := (step s now op).1)

end Wtf.Lru
