import WtfModel.Model.DbState
import WtfModel.Proofs.C03Index
/-
  C03: freshness of index and re-ranker over histories of load / merge / replace / append operations (state machine
  in Model/DbState.lean), and the loader's lower-case caches.
-/
namespace Wtf.Search
open Index GoStr

variable {S : Type} [ScoreOps S]

theorem searchWith_build (T : Tuning S) (db : Db) (q : Bytes) (o : Opts S) :
    searchWith T db (build db) q o = search T db q o := rfl

/-- the operations the property speaks about: load, merge, UpdateDatabase, growth, search -/
def Op.InScope : Op S → Prop
  | .replaceDirect _ => False
  | _ => True

namespace DbState

/-- every state reachable through in-scope operations: either nothing was built yet, or index and
    re-ranker were both built from a prefix `src` of the current commands (the rest was appended
    behind the engine's back since) -/
def Inv (s : DbState) : Prop :=
  s.idx = none ∨ ∃ src extra, s.idx = some (build src) ∧ s.rr = some src ∧ s.cmds = src ++ extra

theorem inv_init : Inv init := Or.inl rfl

theorem inv_built (cmds : List Cmd) : Inv (built cmds) := Or.inr ⟨cmds, [], rfl, rfl, by simp [built]⟩

theorem refresh_of_inv {s : DbState} (h : Inv s) : s.refresh = built s.cmds := by
  obtain ⟨cmds, idx, rr⟩ := s
  unfold refresh needsRebuild
  rcases h with h | ⟨src, extra, hi, hr, hc⟩
  · simp only at h
    subst h
    rfl
  · simp only at hi hr hc
    subst hi hr hc
    simp only [(buildSpec_build src).n, List.length_append]
    -- the length test sees exactly whether something was appended since the build
    cases extra <;> simp [built]

omit [ScoreOps S] in
theorem inv_step (ri : RuneInfo) {s : DbState} (h : Inv s) (op : Op S) (hop : op.InScope) : Inv (step ri s op) := by
  cases op with
  | load raw => exact inv_built _
  | loadWithPersonal m p => cases p <;> exact inv_built _
  | update cs => exact inv_built _
  | growDirect more =>
    cases h with
    | inl h => exact Or.inl h
    | inr h =>
      obtain ⟨src, extra, hi, hr, hc⟩ := h
      exact Or.inr ⟨src, extra ++ more, hi, hr, by simp [step, hc]⟩
  | replaceDirect cs => exact False.elim hop
  | search q o => rw [step, refresh_of_inv h]; exact inv_built _

omit [ScoreOps S] in
theorem inv_run (ri : RuneInfo) {s : DbState} (h : Inv s) (ops : List (Op S)) (hops : ∀ op ∈ ops, op.InScope) :
    Inv (run ri s ops) :=
  List.foldlRecOn ops (step ri) h fun _ hs op hop => inv_step ri hs op (hops op hop)

theorem refresh_idx (s : DbState) : s.refresh.idx.isSome = true := by
  unfold refresh needsRebuild
  cases h : s.idx with
  | none => simp [built]
  | some i => by_cases hn : (i.n != s.cmds.length) = true <;> simp [hn, h, built]

theorem answer_of_inv (T : Tuning S) (mk : List Cmd → Bytes → List (Nat × S)) {s : DbState} (h : Inv s)
    (q : Bytes) (o : Opts S) :
    answer T mk s q o = search { T with tfidf := rankerOf mk (some s.cmds) } s.cmds q o := by
  unfold answer
  simp only [refresh_of_inv h, built]
  rfl

end DbState

/-- each cached lower-case field is empty or the Go lower-casing of its raw field -/
structure WFCache (ri : RuneInfo) (c : Cmd) : Prop where
  command : c.commandLower = [] ∨ c.commandLower = toLower ri c.command
  description : c.descriptionLower = [] ∨ c.descriptionLower = toLower ri c.description
  keywords : c.keywordsLower = [] ∨ c.keywordsLower = c.keywords.map (toLower ri)
  tags : c.tagsLower = [] ∨ c.tagsLower = c.tags.map (toLower ri)

theorem wfCache_map_populate {ri : RuneInfo} {raw : List Cmd} {c : Cmd} (hc : c ∈ raw.map (populate ri)) : WFCache ri c := by
  obtain ⟨c0, _, rfl⟩ := List.mem_map.mp hc
  exact ⟨Or.inr rfl, Or.inr rfl, Or.inr rfl, Or.inr rfl⟩

end Wtf.Search
