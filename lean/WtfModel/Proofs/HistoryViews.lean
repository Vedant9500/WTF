import WtfModel.Model.History
import WtfModel.Proofs.ListBasics

/-! C16, the views in closed form: the loop of `GetRecentQueries` is `dedupFirst` of the queries, newest first, cut at the
    limit (`recent_eq`); the insertion sort is a fold of merges of singletons, so it permutes and sorts by the merge lemmas of
    `ListBasics`; `GetTopQueries` is specified up to the order of ties (`TopSpec`). -/
namespace Wtf.History

section
variable {α : Type} [DecidableEq α]

theorem mem_dedupFirst {x : α} {xs : List α} : x ∈ dedupFirst xs ↔ x ∈ xs := by
  induction xs with
  | nil => simp [dedupFirst]
  | cons y ys ih =>
    simp only [dedupFirst, List.mem_cons, List.mem_filter, ih, ne_eq, decide_not, Bool.not_eq_eq_eq_not,
      Bool.not_true, decide_eq_false_iff_not]
    by_cases h : x = y <;> simp [h]

theorem dedupFirst_nodup (xs : List α) : (dedupFirst xs).Nodup := by
  induction xs with
  | nil => simp [dedupFirst]
  | cons y ys ih =>
    simp only [dedupFirst, List.nodup_cons]
    refine ⟨?_, List.Pairwise.filter _ ih⟩
    intro h
    simp [List.mem_filter] at h

theorem dedupFirst_sublist (xs : List α) : (dedupFirst xs).Sublist xs := by
  induction xs with
  | nil => simp [dedupFirst]
  | cons y ys ih =>
    simp only [dedupFirst]
    exact ((List.filter_sublist).trans ih).cons_cons y

theorem dedupFirst_length_le (xs : List α) : (dedupFirst xs).length ≤ xs.length :=
  (dedupFirst_sublist xs).length_le

theorem dedupFirst_head? (xs : List α) : (dedupFirst xs).head? = xs.head? := by
  cases xs <;> simp [dedupFirst]

end

theorem recentLoop_eq (lim : Nat) (qs acc : List Bytes) (hlen : acc.length ≤ lim) :
    recentLoop lim qs acc = (acc ++ (dedupFirst qs).filter (fun q => decide (q ∉ acc))).take lim := by
  fun_induction recentLoop lim qs acc with
  | case1 acc => simp [dedupFirst, List.take_of_length_le hlen]
  | case2 q qs acc hlt hq ih =>
    rw [ih hlen]
    simp only [dedupFirst, List.filter_cons, hq, not_true_eq_false, decide_false, Bool.false_eq_true, if_false,
      List.filter_filter]
    congr 2
    refine List.filter_congr fun x _ => ?_
    by_cases hx : x ∈ acc
    · simp [hx]
    · simp [hx, show x ≠ q from fun h => hx (h ▸ hq)]
  | case3 q qs acc hlt hq ih =>
    rw [ih (by simp; omega)]
    simp only [dedupFirst, List.filter_cons, hq, not_false_eq_true, decide_true, if_true, List.filter_filter,
      List.append_assoc, List.singleton_append]
    congr 3
    exact List.filter_congr fun x _ => by simp [Bool.and_comm]
  | case4 q qs acc hlt => rw [List.take_left' (by omega)]

theorem recent_eq (s : State) (n : Int) :
    recent s n = (dedupFirst (s.entries.reverse.map (·.query))).take (effLimit n) := by
  unfold recent
  rw [recentLoop_eq _ _ [] (by simp)]
  congr 1
  apply List.filter_eq_self.mpr
  intro a _; simp

theorem effLimit_pos (n : Int) : 1 ≤ effLimit n := by
  unfold effLimit Gen.History.recentDefault
  split <;> omega

theorem sum_map_add {α : Type} (f g : α → Nat) (xs : List α) :
    (xs.map (fun x => f x + g x)).sum = (xs.map f).sum + (xs.map g).sum := by
  induction xs with
  | nil => simp
  | cons x xs ih => simp only [List.map_cons, List.sum_cons, ih]; omega

theorem sum_indicator_nodup {q : Bytes} {qs : List Bytes} (hn : qs.Nodup) (hm : q ∈ qs) :
    (qs.map (fun x => if q = x then 1 else 0)).sum = 1 := by
  have : ∀ l : List Bytes, (l.map (fun x => if q = x then 1 else 0)).sum = l.count q := by
    intro l
    induction l with
    | nil => rfl
    | cons y ys ih =>
      rw [List.map_cons, List.sum_cons, ih, List.count_cons, Nat.add_comm]
      by_cases h : q = y
      · subst h; simp
      · simp [h, Ne.symm h]
  rw [this, hn.count, if_pos hm]

theorem countOf_eq_countP (q : Bytes) (es : List Entry) : countOf q es = es.countP (fun e => e.query = q) :=
  List.countP_eq_length_filter.symm

theorem countOf_cons (q : Bytes) (e : Entry) (es : List Entry) :
    countOf q (e :: es) = (if e.query = q then 1 else 0) + countOf q es := by
  simp only [countOf_eq_countP, List.countP_cons, decide_eq_true_eq, Nat.add_comm]

theorem sum_countOf {qs : List Bytes} (hn : qs.Nodup) (es : List Entry) (hc : ∀ e ∈ es, e.query ∈ qs) :
    (qs.map (fun q => countOf q es)).sum = es.length := by
  induction es with
  | nil => simp [countOf, List.map_const', List.sum_replicate_nat]
  | cons e es ih =>
    have h1 : (qs.map (fun q => countOf q (e :: es))) =
        qs.map (fun q => (if e.query = q then 1 else 0) + countOf q es) := by
      apply List.map_congr_left; intro q _; exact countOf_cons q e es
    rw [h1, sum_map_add, ih (fun x hx => hc x (by simp [hx])), sum_indicator_nodup hn (hc e (by simp))]
    simp; omega

theorem mem_distinctQueries {q : Bytes} {es : List Entry} : q ∈ distinctQueries es ↔ ∃ e ∈ es, e.query = q := by
  simp [distinctQueries, mem_dedupFirst]

theorem countOf_pos {q : Bytes} {es : List Entry} (h : ∃ e ∈ es, e.query = q) : 0 < countOf q es := by
  simpa only [countOf_eq_countP, List.countP_pos_iff, decide_eq_true_eq] using h

theorem freqTable_queries (es : List Entry) : (freqTable es).map (·.query) = distinctQueries es := by
  simp [freqTable, List.map_map, Function.comp_def]

theorem freqTable_counts (es : List Entry) : (freqTable es).map (·.count) = (distinctQueries es).map (fun q => countOf q es) := by
  simp [freqTable, List.map_map, Function.comp_def]

theorem freqTable_sum (es : List Entry) : ((freqTable es).map (·.count)).sum = es.length := by
  rw [freqTable_counts]
  exact sum_countOf (dedupFirst_nodup _) es (fun e he => mem_distinctQueries.mpr ⟨e, he, rfl⟩)

theorem mem_freqTable {qf : QF} {es : List Entry} (h : qf ∈ freqTable es) :
    qf.count = countOf qf.query es ∧ qf.lastUsed = lastSeen qf.query es ∧ (∃ e ∈ es, e.query = qf.query) := by
  simp only [freqTable, List.mem_map] at h
  obtain ⟨q, hq, rfl⟩ := h
  exact ⟨rfl, rfl, mem_distinctQueries.mp hq⟩

section
variable {α : Type} (lt : α → α → Bool)

theorem insertBy_eq_merge (x : α) : ∀ l : List α, insertBy lt x l = [x].merge l (fun a b => !lt b a)
  | [] => (List.merge_right _).symm
  | y :: ys => by
    rw [insertBy, singleton_merge_cons, insertBy_eq_merge x ys]
    cases lt y x <;> rfl

theorem sortBy_eq_foldr (l : List α) : sortBy lt l = l.foldr (fun x acc => [x].merge acc (fun a b => !lt b a)) [] := by
  unfold sortBy; congr; funext x acc; exact insertBy_eq_merge lt x acc

theorem sortBy_perm (xs : List α) : (sortBy lt xs).Perm xs := sortBy_eq_foldr lt xs ▸ foldr_merge_perm _ xs

theorem sortBy_sorted (hasym : ∀ a b, lt a b = true → lt b a = false)
    (htrans : ∀ a b c, lt b a = false → lt c b = false → lt c a = false) (xs : List α) :
    (sortBy lt xs).Pairwise (fun a b => lt b a = false) := by
  rw [sortBy_eq_foldr]
  refine (foldr_merge_pairwise (le := fun a b => !lt b a) ?_ ?_ xs).imp (by simp)
  · simpa using htrans
  · intro a b
    cases h : lt a b
    · simp
    · simp [hasym a b h]

end

theorem qfBefore_true_iff (a b : QF) :
    qfBefore a b = true ↔ (b.count < a.count ∨ (a.count = b.count ∧ b.lastUsed < a.lastUsed)) := by
  unfold qfBefore
  by_cases hc : a.count = b.count
  · simp [hc]
  · simp [hc]

theorem qfBefore_false_iff (a b : QF) :
    qfBefore b a = false ↔ (b.count < a.count ∨ (b.count = a.count ∧ b.lastUsed ≤ a.lastUsed)) := by
  unfold qfBefore
  by_cases hc : b.count = a.count
  · simp [hc]
  · simp [hc]; omega

theorem qfBefore_asym (a b : QF) (h : qfBefore a b = true) : qfBefore b a = false := by
  rw [qfBefore_true_iff] at h
  rw [qfBefore_false_iff]
  omega

theorem qfBefore_trans (a b c : QF) (h1 : qfBefore b a = false) (h2 : qfBefore c b = false) : qfBefore c a = false := by
  rw [qfBefore_false_iff] at *
  omega

/-- What `GetTopQueries` may return, whatever order the map iteration and the unstable sort produce:
    the first `lim` elements of SOME arrangement of the frequency table that is sorted by
    (frequency, then recency). -/
def TopSpec (es : List Entry) (lim : Nat) (r : List QF) : Prop :=
  ∃ l : List QF, l.Perm (freqTable es) ∧ l.Pairwise (fun a b => qfBefore b a = false) ∧ r = l.take lim

theorem top_topSpec (s : State) (n : Int) : TopSpec s.entries (effLimitTop n) (top s n) :=
  ⟨sortBy qfBefore (freqTable s.entries), sortBy_perm _ _, sortBy_sorted qfBefore qfBefore_asym qfBefore_trans _, rfl⟩

theorem stats_total_unique (s : State) :
    (stats s).total = s.entries.length ∧ (stats s).unique = (distinctQueries s.entries).length := by
  unfold stats
  cases h : s.entries with
  | nil => simp [distinctQueries, dedupFirst]
  | cons e es => simp

theorem stats_oldest_newest (s : State) (a b : Entry) (ha : s.entries.head? = some a) (hb : s.entries.getLast? = some b) :
    (stats s).oldest = a.ts ∧ (stats s).newest = b.ts := by
  unfold stats
  cases h : s.entries with
  | nil => rw [h] at ha; simp at ha
  | cons e es =>
    rw [h] at ha hb
    simp only [List.head?_cons, Option.some.injEq] at ha
    subst ha
    simp [hb]

end Wtf.History
