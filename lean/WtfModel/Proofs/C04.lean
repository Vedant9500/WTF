import WtfModel.Proofs.SearchPaths
/-
  Helper lemmas for C04: every result of `search`, on every path, is a document that exists and passed
  the gate (`Eligible`); `database.FilterResults` and the loop of SearchWithPipelineOptions as Props/C04.lean
  states them.  Core Lean only.
-/
namespace Wtf.Search
open Filters

variable {S : Type} [ScoreOps S]

/-- **every path**: whatever `search` returns — lexical, NLP, typo fallback or nothing — consists of
    documents that exist and passed the platform / pipeline gate -/
theorem search_eligible {T : Tuning S} {db : Db} {q : Bytes} {o : Opts S} {r : List (Nat × S)}
    (h : search T db q o = .ok r) : ∀ x ∈ r, Eligible T db o x.1 := by
  rcases search_ok h with hl | ⟨_, hf⟩
  · exact lexical_eligible hl
  · rcases fallback_ok hf with ⟨_, hz⟩ | ⟨_, rfl⟩
    · exact fuzzySearch_eligible hz
    · intro x hx; cases hx

/-- database.FilterResults, which cli/search.go applies to the recovered results: keep the results whose command passes
    the gate (results are (document, score) pairs in the model; a result that is no document of the database is dropped,
    as `r.Command != nil`) -/
def filterResults {S : Type} (ri : RuneInfo) (host : Bytes) (o : FilterOpts) (db : Db) (rs : List (Nat × S)) :
    List (Nat × S) :=
  rs.filter (fun x => match db[x.1]? with | some c => passes ri host o c | none => false)

theorem filterResults_mem {S : Type} (ri : RuneInfo) (host : Bytes) (o : FilterOpts) (db : Db) (rs : List (Nat × S)) :
    ∀ x ∈ filterResults ri host o db rs, ∃ c, db[x.1]? = some c ∧ passes ri host o c = true := by
  intro x hx
  simp only [filterResults, List.mem_filter] at hx
  cases hc : db[x.1]? with
  | none => rw [hc] at hx; simp at hx
  | some c => rw [hc] at hx; exact ⟨c, rfl, hx.2⟩

/-! ### a local transliteration of SearchWithPipelineOptions' loop (see Props/C04.lean `legacy_pipeline`) -/

/-- the legacy gate: `if options.PipelineOnly && !isPipelineCommand(cmd) { continue }` -/
def legacyGate (ri : RuneInfo) (pipelineOnly : Bool) (c : Cmd) : Bool := !(pipelineOnly && !isPipeline ri c)

/-- the loop: gate, score (`none` = score ≤ 0, not appended), append `(position, score)` -/
def legacyCandidates {S : Type} (ri : RuneInfo) (pipelineOnly : Bool) (score : Cmd → Option S) :
    Nat → Db → List (Nat × S)
  | _, [] => []
  | i, c :: rest =>
    if legacyGate ri pipelineOnly c then
      match score c with
      | some s => (i, s) :: legacyCandidates ri pipelineOnly score (i + 1) rest
      | none => legacyCandidates ri pipelineOnly score (i + 1) rest
    else legacyCandidates ri pipelineOnly score (i + 1) rest

theorem legacyCandidates_eq {S : Type} (ri : RuneInfo) (po : Bool) (score : Cmd → Option S) (i : Nat) (db : Db) :
    legacyCandidates ri po score i db = dbScan (fun _ c => if legacyGate ri po c then score c else none) i db := by
  induction db generalizing i with
  | nil => rfl
  | cons c rest ih => rw [dbScan_cons, legacyCandidates, ih]; split <;> rfl

theorem legacyCandidates_mem {S : Type} (ri : RuneInfo) (po : Bool) (score : Cmd → Option S) (db : Db) :
    ∀ x ∈ legacyCandidates ri po score 0 db, ∃ c, db[x.1]? = some c ∧ legacyGate ri po c = true := by
  intro x hx
  rw [legacyCandidates_eq] at hx
  obtain ⟨c, hc, hf⟩ := mem_dbScan hx
  refine ⟨c, hc, ?_⟩
  split at hf
  · assumption
  · cases hf

end Wtf.Search
