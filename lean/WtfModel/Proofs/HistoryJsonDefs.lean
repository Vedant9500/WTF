/-
  C16, the executable JSON codec of the history file (`Model/HistoryJson.lean`, the `Codec` instance the
  driver runs against encoding/json): the predicates under which its laws are THEOREMS instead of
  assumptions.  Definitions only; the proofs are in `Proofs/HistoryJsonStr.lean` (string literals),
  `Proofs/HistoryJsonTime.lean` (digits, RFC 3339 text) and `Proofs/HistoryJsonParse.lean` (parser).
  Core Lean only.
-/
import WtfModel.Model.HistoryJson
namespace Wtf.History.Json
open Wtf.History

/-- Valid UTF-8, said without reference to quote / unquote: the text splits into sequences that
    `utf8Len` (Go's `utf8.DecodeRune` acceptance: shortest form, no surrogates, at most U+10FFFF) accepts. -/
def validUtf8 : Bytes → Bool
  | [] => true
  | a :: r =>
    if _h : utf8Len (a :: r) = 0 then false
    else validUtf8 ((a :: r).drop (utf8Len (a :: r)))
termination_by b => b.length
decreasing_by
  simp only [List.length_drop, List.length_cons]
  omega

/-- A string-literal body the scanner reads to its end: no quote, no control byte, a backslash only in
    front of one of the RFC's escapes. -/
def litOK : Bytes → Bool
  | [] => true
  | a :: r =>
    if a == 34 || a < 32 then false
    else if a == 92 then
      match r with
      | [] => false
      | e :: r1 =>
        if e == 117 then
          match r1 with
          | h1 :: h2 :: h3 :: h4 :: r2 => isHex h1 && isHex h2 && isHex h3 && isHex h4 && litOK r2
          | _ => false
        else (e == 34 || e == 92 || e == 47 || e == 98 || e == 102 || e == 110 || e == 114 || e == 116) && litOK r1
    else litOK r

/-- The documents the printer is claimed to be read back from: no `badnum`, integers in the int64 range,
    literal bodies the scanner accepts, member names that survive quote / unquote. -/
inductive WFJ : JVal → Prop
  | null : WFJ .null
  | bool (b : Bool) : WFJ (.bool b)
  | int (i : Int) : -9223372036854775808 ≤ i → i ≤ 9223372036854775807 → WFJ (.int i)
  | str (raw : Bytes) : litOK raw = true → WFJ (.str raw)
  | arr (xs : List JVal) : (∀ x, x ∈ xs → WFJ x) → WFJ (.arr xs)
  | obj (kvs : List (Bytes × JVal)) : (∀ kv, kv ∈ kvs → unquote (quote kv.1) = kv.1) → (∀ kv, kv ∈ kvs → WFJ kv.2) →
      WFJ (.obj kvs)

/-- What the parser proof needs to know about the decimal printer (`natDigits n = toString n`). -/
structure DigitFacts : Prop where
  all_digits : ∀ n, (natDigits n).all isDigit = true
  nonempty : ∀ n, natDigits n ≠ []
  value : ∀ n, natOfDigits (natDigits n) = n
  no_leading_zero : ∀ n, 1 < (natDigits n).length → (natDigits n).head? ≠ some 48

/-- Time keys of real instants the history can hold: packed decimal fields of a calendar date in the
    years 1 .. 9999 (`time.Time.MarshalJSON` succeeds for the years 0 .. 9999; year 1 holds Go's zero time, the key 0). -/
def OkTime (t : Int) : Prop :=
  ∃ y mo d h mi s ns : Nat, 1 ≤ y ∧ y ≤ 9999 ∧ 1 ≤ mo ∧ mo ≤ 12 ∧ 1 ≤ d ∧ d ≤ daysIn y mo ∧ h ≤ 23 ∧ mi ≤ 59 ∧
    s ≤ 59 ∧ ns < 1000000000 ∧ t = (pack y mo d h mi s ns : Int) - (zeroPacked : Int)

end Wtf.History.Json
