import Lean.Meta.Tactic.Simp.RegisterCommand

/-- what `simp` needs to compute the effect of one `PerformanceMonitor` call on the value filed under one key:
    the recording functions, `valD_touch`, and when two of the monitor's keys are equal (Proofs/MetricsMonitor.lean) -/
register_simp_attr monitor_simp
