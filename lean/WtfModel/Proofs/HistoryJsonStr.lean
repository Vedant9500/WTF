/-
  C16, string literals of the executable JSON codec (`Model/HistoryJson.lean`): `unquote ∘ quote` is
  `sanitize`, a function of this file (every byte that does not start a sequence `utf8Len` accepts becomes U+FFFD, accepted
  sequences are copied), hence the texts it leaves unchanged are exactly the `validUtf8` ones (`validUtf8_iff`).  The two
  facts everything rests on: a lead byte `≥ 0x80` starts nothing or a run of bytes `≥ 0x80` that is accepted
  whatever follows (`utf8Len_cases`), and `quote` copies bytes `≥ 0x80` and writes none for a byte below.
  Core Lean only.
-/
import WtfModel.Proofs.HistoryJsonBytes
namespace Wtf.History.Json

theorem quote_hi {b : UInt8} {r : Bytes} (h : 0x80 ≤ b) : quote (b :: r) = b :: quote r := by
  have h1 : ¬ (b == 34) = true := fun e => absurd (beq_iff_eq.mp e ▸ h) (by decide)
  have h2 : ¬ (b == 92) = true := fun e => absurd (beq_iff_eq.mp e ▸ h) (by decide)
  have h3 : ¬ b < 32 := fun e => absurd (UInt8.lt_of_le_of_lt h e) (by decide)
  rw [quote, if_neg h1, if_neg h2, if_neg h3]

theorem isCont_hi {b : UInt8} (h : isCont b = true) : 0x80 ≤ b := by
  simp only [isCont, Bool.and_eq_true, decide_eq_true_eq] at h; exact h.1

theorem lo_hi {p : Prop} [Decidable p] {x y b : UInt8} (hx : 0x80 ≤ x) (hy : 0x80 ≤ y) (h : (if p then x else y) ≤ b) :
    0x80 ≤ b := by
  split at h
  · exact UInt8.le_trans hx h
  · exact UInt8.le_trans hy h

theorem utf8Len_ascii {a : UInt8} {r : Bytes} (h : a < 0x80) : utf8Len (a :: r) = 1 := by
  unfold utf8Len; exact if_pos h

theorem utf8Len_cases (a : UInt8) (r : Bytes) (ha : ¬ a < 0x80) :
    utf8Len (a :: r) = 0 ∨
      ∃ hs t, r = hs ++ t ∧ (∀ b ∈ hs, 0x80 ≤ b) ∧ ∀ t', utf8Len (a :: (hs ++ t')) = hs.length + 1 := by
  generalize hs : a :: r = s
  -- one goal per branch of `utf8Len`; an accepting branch accepts the same bytes before any other tail
  fun_cases utf8Len s
  case case2 h => cases hs; exact absurd h ha
  case case3 _ h2 b t hb =>
    cases hs
    exact .inr ⟨[b], t, rfl, by simpa using isCont_hi hb, fun t' => by
      rw [List.singleton_append, utf8Len, if_neg ha, if_pos h2]; exact if_pos hb⟩
  case case6 _ h2 h3 b c t lo hi hb =>
    cases hs
    have hb' := hb
    simp only [Bool.and_eq_true, decide_eq_true_eq] at hb'
    exact .inr ⟨[b, c], t, rfl, by simpa using ⟨lo_hi (by decide) (by decide) hb'.1.1, isCont_hi hb'.2⟩, fun t' => by
      rw [List.cons_append, List.singleton_append, utf8Len, if_neg ha, if_neg h2, if_pos h3]; exact if_pos hb⟩
  case case9 _ h2 h3 h4 b c d t lo hi hb =>
    cases hs
    have hb' := hb
    simp only [Bool.and_eq_true, decide_eq_true_eq] at hb'
    exact .inr ⟨[b, c, d], t, rfl, by simpa using ⟨lo_hi (by decide) (by decide) hb'.1.1.1, isCont_hi hb'.1.2, isCont_hi hb'.2⟩, fun t' => by
      rw [List.cons_append, List.cons_append, List.singleton_append, utf8Len, if_neg ha, if_neg h2, if_neg h3, if_pos h4]; exact if_pos hb⟩
  all_goals exact .inl rfl

theorem quote_append_hi {hs t : Bytes} (h : ∀ b ∈ hs, 0x80 ≤ b) : quote (hs ++ t) = hs ++ quote t := by
  induction hs with
  | nil => rfl
  | cons b hs ih =>
    rw [List.cons_append, quote_hi (h b (by simp)), ih (fun x hx => h x (by simp [hx])), List.cons_append]

theorem quote_lo (c : UInt8) (r : Bytes) (h : c < 0x80) : ∃ c' t, quote (c :: r) = c' :: t ∧ c' < 0x80 := by
  unfold quote
  split
  · exact ⟨92, _, rfl, by decide⟩
  · split
    · exact ⟨92, _, rfl, by decide⟩
    · split
      · exact ⟨92, _, rfl, by decide⟩
      · exact ⟨c, _, rfl, h⟩

theorem hi_prefix_of_quote (hs : Bytes) (h : ∀ b ∈ hs, 0x80 ≤ b) : ∀ r t, quote r = hs ++ t → ∃ t', r = hs ++ t' := by
  induction hs with
  | nil => intro r t _; exact ⟨r, rfl⟩
  | cons b hs ih =>
    intro r t e
    have hb := h b (by simp)
    match r with
    | [] => simp [quote] at e
    | c :: r =>
      by_cases hc : c < 0x80
      · obtain ⟨c', t', e', hc'⟩ := quote_lo c r hc
        rw [e'] at e; injection e with e1 _; subst e1; exact absurd hc' (UInt8.not_lt.mpr hb)
      · rw [quote_hi (UInt8.not_lt.mp hc)] at e
        injection e with e1 e2; subst e1
        obtain ⟨t', rfl⟩ := ih (fun x hx => h x (by simp [hx])) r t e2
        exact ⟨t', rfl⟩

theorem utf8Len_quote {a : UInt8} {r : Bytes} (ha : ¬ a < 0x80) :
    utf8Len (a :: quote r) = utf8Len (a :: r) := by
  rcases utf8Len_cases a r ha with h0 | ⟨hs, t, rfl, hh, hn⟩
  · rcases utf8Len_cases a (quote r) ha with h0' | ⟨hs, t, e, hh, hn⟩
    · rw [h0, h0']
    · obtain ⟨t', rfl⟩ := hi_prefix_of_quote hs hh r t e
      rw [hn] at h0; exact absurd h0 (Nat.succ_ne_zero _)
  · rw [quote_append_hi hh, hn, hn]

theorem unquoteAux_nil (fuel : Nat) : unquoteAux fuel [] = [] := by
  cases fuel <;> rfl

theorem unquoteAux_esc {fuel : Nat} {e : UInt8} {r : Bytes} (h : e = 34 ∨ e = 92) :
    unquoteAux (fuel + 1) (92 :: e :: r) = e :: unquoteAux fuel r := by
  rw [unquoteAux.eq_def]; rcases h with h | h <;> subst h <;> simp

theorem unquoteAux_u {fuel : Nat} {h1 h2 h3 h4 : UInt8} {r : Bytes}
    (hu : ¬ (0xD800 ≤ hex4 h1 h2 h3 h4 ∧ hex4 h1 h2 h3 h4 ≤ 0xDFFF)) :
    unquoteAux (fuel + 1) (92 :: 117 :: h1 :: h2 :: h3 :: h4 :: r) =
      encodeRune (hex4 h1 h2 h3 h4) ++ unquoteAux fuel r := by
  rw [unquoteAux.eq_def]; simp only [beq_self_eq_true, if_true]; rw [if_neg hu]

theorem unquoteAux_raw {fuel : Nat} {a : UInt8} {r : Bytes} (h : a ≠ 92) :
    unquoteAux (fuel + 1) (a :: r) =
      if utf8Len (a :: r) = 0 then replacement ++ unquoteAux fuel r
      else (a :: r).take (utf8Len (a :: r)) ++ unquoteAux fuel ((a :: r).drop (utf8Len (a :: r))) := by
  rw [unquoteAux.eq_def]; simp [h]

theorem unquoteAux_ctl {fuel : Nat} {c : UInt8} {r : Bytes} (h : c < 32) :
    unquoteAux (fuel + 1) (92 :: 117 :: 48 :: 48 :: hexDigitB (c.toNat / 16) :: hexDigitB (c.toNat % 16) :: r) =
      c :: unquoteAux fuel r := by
  have hlt : c.toNat < 32 := by simpa [UInt8.lt_iff_toNat_lt] using h
  have e : hex4 48 48 (hexDigitB (c.toNat / 16)) (hexDigitB (c.toNat % 16)) = c.toNat := by
    unfold hex4
    rw [show hexVal 48 = 0 by decide, hexVal_hexDigitB _ (by omega), hexVal_hexDigitB _ (by omega)]
    omega
  rw [unquoteAux_u (by rw [e]; omega), e]
  have : encodeRune c.toNat = [c] := by
    unfold encodeRune
    rw [if_pos (by omega)]; simp
  rw [this]; rfl


/-- what `unquote ∘ quote` does, said directly on the text: every byte that does not start a valid
    sequence becomes U+FFFD, valid sequences are copied -/
def sanitize : Bytes → Bytes
  | [] => []
  | a :: r =>
    if _h : utf8Len (a :: r) = 0 then replacement ++ sanitize r
    else (a :: r).take (utf8Len (a :: r)) ++ sanitize ((a :: r).drop (utf8Len (a :: r)))
termination_by b => b.length
decreasing_by
  · simp
  · simp only [List.length_drop, List.length_cons]
    omega

theorem unquoteAux_quote : ∀ (fuel : Nat) (b : Bytes), b.length ≤ fuel → unquoteAux fuel (quote b) = sanitize b := by
  intro fuel
  induction fuel with
  | zero =>
    intro b hf
    have : b = [] := List.eq_nil_of_length_eq_zero (by omega)
    subst this
    simp [quote, unquoteAux_nil, sanitize]
  | succ fuel ih =>
    intro b hf
    match b with
    | [] => simp [quote, unquoteAux_nil, sanitize]
    | a :: r =>
      simp only [List.length_cons, Nat.add_le_add_iff_right] at hf
      by_cases ha : a < 0x80
      · have hs : sanitize (a :: r) = a :: sanitize r := by
          rw [sanitize]; simp [utf8Len_ascii ha]
        rw [hs]
        unfold quote
        split
        · rename_i h; simp at h; subst h
          rw [unquoteAux_esc (Or.inl rfl), ih r hf]
        · split
          · rename_i h; simp at h; subst h
            rw [unquoteAux_esc (Or.inr rfl), ih r hf]
          · split
            · rename_i h
              simp only [List.cons_append, List.nil_append]
              rw [unquoteAux_ctl h, ih r hf]
            · rename_i h1 h2 h3
              simp at h2
              rw [unquoteAux_raw h2]
              simp [utf8Len_ascii ha, ih r hf]
      · have h80 : 0x80 ≤ a := UInt8.not_lt.mp ha
        have h92 : a ≠ 92 := by intro h; subst h; exact absurd h80 (by decide)
        rw [quote_hi h80, unquoteAux_raw h92, utf8Len_quote ha, sanitize]
        rcases utf8Len_cases a r ha with h0 | ⟨hs, t, rfl, hh, hn⟩
        · simp only [h0, if_true, dite_true]; rw [ih r hf]
        · simp only [hn, Nat.add_one_ne_zero, if_false, dite_false, quote_append_hi hh]
          rw [← List.cons_append, ← List.cons_append, List.take_left' (l₁ := a :: hs) (i := hs.length + 1) rfl,
            List.drop_left' (l₁ := a :: hs) (i := hs.length + 1) rfl, List.take_left' (l₁ := a :: hs) (i := hs.length + 1) rfl,
            List.drop_left' (l₁ := a :: hs) (i := hs.length + 1) rfl,
            ih t (by simp at hf; omega)]

theorem length_le_quote (b : Bytes) : b.length ≤ (quote b).length := by
  induction b with
  | nil => simp
  | cons c r ih =>
    unfold quote
    split
    · simp; omega
    · split
      · simp; omega
      · split <;> (simp; omega)

theorem unquote_quote_eq_sanitize (b : Bytes) : unquote (quote b) = sanitize b :=
  unquoteAux_quote _ b (length_le_quote b)

theorem sanitize_of_valid {b : Bytes} (h : validUtf8 b = true) : sanitize b = b := by
  fun_induction validUtf8 b with
  | case1 => simp [sanitize]
  | case2 a r h0 => simp at h
  | case3 a r h0 ih =>
    rw [sanitize]
    simp only [h0, dite_false]
    rw [ih h, List.take_append_drop]

theorem valid_of_sanitize {b : Bytes} (h : sanitize b = b) : validUtf8 b = true := by
  fun_induction sanitize b with
  | case1 => simp [validUtf8]
  | case2 a r h0 ih =>
    -- a text that begins with U+FFFD begins with a valid sequence
    obtain ⟨rfl, hr⟩ := List.cons.inj h
    rw [← hr] at h0
    exact absurd h0 (Nat.succ_ne_zero 2)
  | case3 a r h0 ih =>
    rw [validUtf8]
    simp only [h0, dite_false]
    apply ih
    have e := List.take_append_drop (utf8Len (a :: r)) (a :: r)
    exact List.append_cancel_left (h.trans e.symm)

theorem validUtf8_iff (b : Bytes) : validUtf8 b = true ↔ unquote (quote b) = b := by
  rw [unquote_quote_eq_sanitize]
  exact ⟨sanitize_of_valid, valid_of_sanitize⟩

end Wtf.History.Json
