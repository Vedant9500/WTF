import WtfModel.Model.NormQ
import WtfModel.Proofs.Utf8
/-! ASCII lower-casing (`Text.lowerB`) and Go's `strings.ToLower` as modelled in Basic/GoStr.lean: its all-ASCII fast
    path agrees with the general path (`toLower_eq_gen`). -/
namespace Wtf.Text

theorem lowerB_cases (b : UInt8) :
    (isUpperB b = true ∧ isUpperB (lowerB b) = false ∧ isLowerB (lowerB b) = true) ∨ (isUpperB b = false ∧ lowerB b = b) := by
  unfold lowerB
  by_cases h : isUpperB b = true
  · refine .inl ⟨h, ?_⟩
    rw [if_pos h]
    simp only [isUpperB, isLowerB, UInt8.le_iff_toNat_le, UInt8.toNat_add, UInt8.reduceToNat, Bool.and_eq_true, Bool.and_eq_false_iff,
      decide_eq_true_eq, decide_eq_false_iff_not] at h ⊢
    omega
  · exact .inr ⟨by simpa using h, if_neg h⟩

theorem lowerB_ascii {b : UInt8} (h : b.toNat < 128) : (lowerB b).toNat < 128 := by
  rcases lowerB_cases b with ⟨_, _, hl⟩ | ⟨_, e⟩
  · -- a lower-case letter is at most `z`
    simp only [isLowerB, UInt8.le_iff_toNat_le, UInt8.reduceToNat, Bool.and_eq_true, decide_eq_true_eq] at hl
    omega
  · rwa [e]

theorem lowerB_lowerB (b : UInt8) : lowerB (lowerB b) = lowerB b := by
  rcases lowerB_cases b with ⟨_, h, _⟩ | ⟨h, e⟩
  · rw [lowerB, if_neg (by simp [h])]
  · rw [e, e]

theorem isAlnumB_lowerB (b : UInt8) : isAlnumB (lowerB b) = isAlnumB b := by
  rcases lowerB_cases b with ⟨h1, h2, h3⟩ | ⟨_, e⟩
  · simp [isAlnumB, h1, h2, h3]
  · rw [e]

end Wtf.Text

namespace Wtf.GoStr
open Wtf.Utf8 Wtf.Text

/-- lower-casing without the all-ASCII fast path -/
def toLowerGen (ri : RuneInfo) (s : Bytes) : Bytes :=
  ((decode s).map (fun x => encodeRune (ri.lower x.1))).flatten

theorem toLowerGen_runes (ri : RuneInfo) (s : Bytes) :
    toLowerGen ri s = (((runes s).map ri.lower).map encodeRune).flatten := by
  simp [toLowerGen, runes, List.map_map, Function.comp_def]

theorem toLowerGen_cons (ri : RuneInfo) {s t : Bytes} {r : Nat} (h : runes s = r :: runes t) :
    toLowerGen ri s = encodeRune (ri.lower r) ++ toLowerGen ri t := by
  simp only [toLowerGen_runes, h, List.map_cons, List.flatten_cons]

theorem lower_ascii (ri : RuneInfo) {n : Nat} (h : n < 128) : ri.lower n = (lowerB (UInt8.ofNat n)).toNat := by
  have hn := toNat_ofNat_lt (show n < 256 by omega)
  rw [RuneInfo.lower, if_pos h, lowerB, isUpperB, apply_ite UInt8.toNat, UInt8.toNat_add, hn]
  simp only [UInt8.le_iff_toNat_le, hn, UInt8.reduceToNat]
  split
  · omega
  · rfl

theorem enc_lower_ascii (ri : RuneInfo) {n : Nat} (h : n < 128) : encodeRune (ri.lower n) = [lowerB (UInt8.ofNat n)] := by
  rw [lower_ascii ri h, encodeRune_ascii _ (lowerB_ascii (by rwa [toNat_ofNat_lt (by omega)])), UInt8.ofNat_toNat]

theorem toLower_eq_gen (ri : RuneInfo) (s : Bytes) : toLower ri s = toLowerGen ri s := by
  unfold toLower
  split
  · rename_i h
    induction s with
    | nil => rfl
    | cons b t ih =>
      simp only [isAsciiStr, List.all_cons, Bool.and_eq_true, decide_eq_true_eq] at h
      have hb := UInt8.lt_iff_toNat_lt.mp h.1
      have hr : runes (b :: t) = _ :: runes t := runes_cons (decodeRune_ascii b t hb)
      rw [toLowerGen_cons ri hr, enc_lower_ascii ri hb, UInt8.ofNat_toNat, ← ih h.2]
      rfl
  · rfl

end Wtf.GoStr
