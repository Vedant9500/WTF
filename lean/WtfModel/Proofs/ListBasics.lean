/-
  Facts about core `List` functions that several proof modules need and core does not state in this form.
-/
namespace Wtf

section sort
variable {α : Type} {le : α → α → Bool}

/-- every insertion sort of the model (`Metrics.insertBy`, `History.insertBy`, `Tfidf.insertSorted`,
    `KeyJson.insertEntry`) unfolds like this, so each is `[x].merge · le` for its own `le` -/
theorem singleton_merge_cons (le : α → α → Bool) (x y : α) (ys : List α) :
    [x].merge (y :: ys) le = if le x y then x :: y :: ys else y :: [x].merge ys le := by
  rw [List.cons_merge_cons, List.nil_merge]

theorem foldr_merge_perm (le : α → α → Bool) (l : List α) :
    (l.foldr (fun x acc => [x].merge acc le) []).Perm l := by
  induction l with
  | nil => exact .refl _
  | cons x xs ih => exact (List.merge_perm_append le).trans (ih.cons x)

theorem foldr_merge_pairwise (trans : ∀ a b c, le a b → le b c → le a c) (total : ∀ a b, le a b || le b a)
    (l : List α) : (l.foldr (fun x acc => [x].merge acc le) []).Pairwise (fun a b => le a b) := by
  induction l with
  | nil => exact .nil
  | cons x xs ih => exact List.pairwise_merge trans total _ _ (List.pairwise_singleton ..) ih

theorem eq_of_perm_of_sorted (antisymm : ∀ a b, le a b → le b a → a = b) {s₁ s₂ l₁ l₂ : List α}
    (h₁ : s₁.Pairwise (fun a b => le a b)) (h₂ : s₂.Pairwise (fun a b => le a b))
    (p₁ : s₁.Perm l₁) (p₂ : s₂.Perm l₂) (h : l₁.Perm l₂) : s₁ = s₂ :=
  List.Perm.eq_of_pairwise (fun a b _ _ => antisymm a b) h₁ h₂ (p₁.trans (h.trans p₂.symm))

theorem mergeSort_eq_of_perm (trans : ∀ a b c, le a b → le b c → le a c) (total : ∀ a b, le a b || le b a)
    (antisymm : ∀ a b, le a b → le b a → a = b) {l₁ l₂ : List α} (h : l₁.Perm l₂) :
    l₁.mergeSort le = l₂.mergeSort le :=
  eq_of_perm_of_sorted antisymm (List.pairwise_mergeSort trans total l₁) (List.pairwise_mergeSort trans total l₂)
    (List.mergeSort_perm ..) (List.mergeSort_perm ..) h

end sort

theorem nodup_of_nodup_map {α β : Type} (f : α → β) {l : List α} (d : (l.map f).Nodup) : l.Nodup :=
  List.Pairwise.of_map f (fun _ _ h e => h (e ▸ rfl)) d

theorem find?_of_nodup_map {α β : Type} [BEq β] [LawfulBEq β] (f : α → β) {l : List α} (d : (l.map f).Nodup)
    {x : α} (hx : x ∈ l) : l.find? (fun y => f y == f x) = some x := by
  induction l with
  | nil => cases hx
  | cons a t ih =>
    rw [List.map_cons, List.nodup_cons] at d
    rw [List.find?_cons]
    rcases List.mem_cons.mp hx with rfl | hx
    · simp
    · have : (f a == f x) = false := beq_eq_false_iff_ne.mpr fun e => d.1 (e ▸ List.mem_map_of_mem hx)
      rw [this]; exact ih d.2 hx

theorem inj_of_nodup_map {α β : Type} (f : α → β) {l : List α} (d : (l.map f).Nodup) {x y : α}
    (hx : x ∈ l) (hy : y ∈ l) (h : f x = f y) : x = y := by
  induction l with
  | nil => cases hx
  | cons a t ih =>
    rw [List.map_cons, List.nodup_cons] at d
    rcases List.mem_cons.mp hx with rfl | hx' <;> rcases List.mem_cons.mp hy with rfl | hy'
    · rfl
    · exact (d.1 (List.mem_map.mpr ⟨y, hy', h.symm⟩)).elim
    · exact (d.1 (List.mem_map.mpr ⟨x, hx', h⟩)).elim
    · exact ih d.2 hx' hy'

theorem foldl_preserves {α β : Type} {P : β → Prop} {f : β → α → β} (hf : ∀ b a, P b → P (f b a))
    (l : List α) {b : β} (hb : P b) : P (l.foldl f b) :=
  List.foldlRecOn l f hb fun b hb a _ => hf b a hb

theorem foldl_or_exists {α β : Type} (f : β → α → β) (P : β → Prop) (Q : α → Prop)
    (h : ∀ b a, P (f b a) ↔ P b ∨ Q a) (l : List α) (b : β) :
    P (l.foldl f b) ↔ P b ∨ ∃ a ∈ l, Q a := by
  induction l generalizing b with
  | nil => simp
  | cons a rest ih => simp [ih, h, or_assoc]

end Wtf
