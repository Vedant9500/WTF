import WtfModel.Model.Retry

/-!
  For C15: the back-off delay `delayNs` over ℚ (`Rat` is in core Lean).  For every stored configuration that is `Sane`,
  which is what `NewDatabaseRecovery`'s clamps establish (`sanitize_sane`), it lies between 0 and the cap and never
  decreases with the attempt number, the two float corners of `calculateDelay` (`+Inf` factor, overflowing power)
  included.
-/
namespace Wtf.Retry

theorem pow_le_pow_succ {f : Rat} (hf : 1 ≤ f) (n : Nat) : f ^ n ≤ f ^ (n + 1) := by
  have h0 : (0 : Rat) ≤ f := Rat.le_trans (by decide) hf
  have hp : (0 : Rat) ≤ f ^ n := Rat.pow_nonneg h0
  rw [Rat.pow_succ]
  have := Rat.mul_le_mul_of_nonneg_left hf hp
  simpa [Rat.mul_one] using this

theorem pow_mono {f : Rat} (hf : 1 ≤ f) {m n : Nat} (h : m ≤ n) : f ^ m ≤ f ^ n := by
  induction h with
  | refl => exact Rat.le_refl
  | step _ ih => exact Rat.le_trans ih (pow_le_pow_succ hf _)

theorem capQ_le_max (cfg : Cfg) {d : Rat} : capQ cfg d ≤ (cfg.max : Rat) := by
  unfold capQ
  split
  · exact Rat.le_refl
  · exact Rat.not_lt.mp ‹_›

theorem capQ_mono (cfg : Cfg) {x y : Rat} (h : x ≤ y) : capQ cfg x ≤ capQ cfg y := by
  unfold capQ
  split
  · rename_i hx
    split
    · exact Rat.le_refl
    · rename_i hy; exact absurd (Rat.not_le.mp fun hle => Rat.not_lt.mpr (Rat.le_trans h hle) hx) hy
  · rename_i hx
    split
    · exact Rat.not_lt.mp hx
    · exact h

theorem capQ_nonneg (cfg : Cfg) (hm : 0 ≤ cfg.max) {x : Rat} (h : 0 ≤ x) : 0 ≤ capQ cfg x := by
  have hm' : (0 : Rat) ≤ (cfg.max : Rat) := Rat.intCast_nonneg.mpr hm
  unfold capQ
  split
  · exact hm'
  · exact h

theorem truncQ_mono {a b : Rat} (h : a ≤ b) : truncQ a ≤ truncQ b := by
  unfold truncQ
  split <;> split
  · exact Rat.floor_monotone h
  · rename_i h1 h2
    exact absurd (Rat.le_trans h1 h) h2
  · rename_i h1 h2
    have h1' : a ≤ ((0 : Int) : Rat) := Rat.le_of_lt (Rat.not_le.mp h1)
    have ha : a.ceil ≤ 0 := Rat.ceil_le_iff.mpr h1'
    have hb : (0 : Int) ≤ b.floor := Rat.le_floor_iff.mpr h2
    omega
  · exact Rat.ceil_le_iff.mpr (Rat.le_trans h Rat.le_ceil)

theorem truncQ_le_int {a : Rat} {m : Int} (h : a ≤ (m : Rat)) : truncQ a ≤ m := by
  unfold truncQ
  split
  · have := Rat.le_trans (Rat.floor_le a) h
    exact Rat.intCast_le_intCast.mp this
  · exact Rat.ceil_le_iff.mpr h

theorem truncQ_nonneg {a : Rat} (h : 0 ≤ a) : 0 ≤ truncQ a := by
  unfold truncQ
  simp only [h, ↓reduceIte]
  exact Rat.le_floor_iff.mpr h

/-- `hm` is needed in one place: the `-Inf` corner of an unsanitised configuration (factor `+Inf`, negative base), where
    the delay is `MinInt64`. -/
theorem delayNs_le_max (cfg : Cfg) (hm : 0 ≤ cfg.max) (n : Nat) : delayNs cfg n ≤ cfg.max := by
  unfold delayNs
  split
  · simp only
    split
    · exact Int.le_refl _
    · exact truncQ_le_int (capQ_le_max cfg)
  · split
    · exact truncQ_le_int (capQ_le_max cfg)
    · split
      · omega
      · exact Int.le_refl _

theorem delayNs_nonneg (cfg : Cfg) (hs : cfg.Sane) (n : Nat) : 0 ≤ delayNs cfg n := by
  obtain ⟨_, hb, hm, hf⟩ := hs
  have hb' : (0 : Rat) ≤ (cfg.base : Rat) := Rat.intCast_nonneg.mpr hb
  unfold delayNs
  split
  · rename_i q hq
    rw [hq] at hf
    have h0 : (0 : Rat) ≤ q := Rat.le_trans (by decide) hf
    simp only
    split
    · exact hm
    · exact truncQ_nonneg (capQ_nonneg cfg hm (Rat.mul_nonneg hb' (Rat.pow_nonneg h0)))
  · split
    · exact truncQ_nonneg (capQ_nonneg cfg hm hb')
    · split
      · omega
      · exact hm

/-- Once the delay is the cap it stays the cap, which bounds every delay; before that it is the uncapped delay
    sent through the cap and the truncation, all of which grow. -/
theorem delayNs_mono (cfg : Cfg) (hs : cfg.Sane) {m n : Nat} (h : m ≤ n) :
    delayNs cfg m ≤ delayNs cfg n := by
  have hmax := delayNs_le_max cfg hs.2.2.1 m
  obtain ⟨_, hb, _, hf⟩ := hs
  cases hfac : cfg.factor with
  | fin q =>
    rw [hfac] at hf
    have hp : q ^ (m - 1) ≤ q ^ (n - 1) := pow_mono hf (Nat.sub_le_sub_right h 1)
    have e : ∀ k, delayNs cfg k = if cfg.base = 0 ∧ floatOverflow ≤ q ^ (k - 1) then cfg.max
        else truncQ (capQ cfg ((cfg.base : Rat) * q ^ (k - 1))) := fun k => by rw [delayNs, hfac]
    by_cases hn : cfg.base = 0 ∧ floatOverflow ≤ q ^ (n - 1)
    · rw [e n, if_pos hn]; exact hmax
    · have hm : ¬ (cfg.base = 0 ∧ floatOverflow ≤ q ^ (m - 1)) := fun ⟨h0, ho⟩ => hn ⟨h0, Rat.le_trans ho hp⟩
      rw [e m, e n, if_neg hm, if_neg hn]
      exact truncQ_mono (capQ_mono cfg (Rat.mul_le_mul_of_nonneg_left hp (Rat.intCast_nonneg.mpr hb)))
  | posInf =>
    have e : ∀ k, delayNs cfg k = if k ≤ 1 then truncQ (capQ cfg (cfg.base : Rat)) else cfg.max := fun k => by
      rw [delayNs, hfac]; simp only [Int.not_lt.mpr hb, ↓reduceIte]
    by_cases hn : n ≤ 1
    · rw [e m, e n, if_pos hn, if_pos (Nat.le_trans h hn)]; exact Int.le_refl _
    · rw [e n, if_neg hn]; exact hmax

theorem delays_pairwise (cfg : Cfg) (hs : cfg.Sane) (a k : Nat) :
    ((List.range' a k).map (delayNs cfg)).Pairwise (· ≤ ·) := by
  rw [List.pairwise_map]
  have := List.pairwise_lt_range' (s := a) (n := k) (step := 1) (by omega)
  exact this.imp (fun h => delayNs_mono cfg hs (Nat.le_of_lt h))

theorem sanitize_sane (raw : RawCfg) : (sanitize raw).Sane := by
  refine ⟨?_, ?_, ?_, ?_⟩
  · simp only [sanitize]; split <;> omega
  · simp only [sanitize]; split <;> omega
  · simp only [sanitize]; split <;> omega
  · simp only [sanitize]
    cases raw.factor with
    | fin q => by_cases h : 1 ≤ q <;> simp [h] <;> decide
    | posInf => trivial
    | negInf => decide
    | nan => decide

end Wtf.Retry
