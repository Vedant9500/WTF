import WtfModel.Model.Lru

/-! The LRU model (C12): each operation is described once (`get_spec`, `put_of_*`/`put_spec`, `delete_fst`,
    `cleanup_spec`, and the `mem_*` lemmas saying where the entries of the next state come from); the invariant is kept
    because a state changes in one of two ways (`Inv.of_sublist`, `Inv.push`).  Core Lean only. -/
namespace Wtf.Lru

set_option linter.unusedSectionVars false
variable {κ ν : Type} [DecidableEq κ]

structure Inv (s : State κ ν) : Prop where
  capPos : 0 < s.cap
  bounded : s.entries.length ≤ s.cap
  nodup : (s.entries.map (·.key)).Nodup
  recency : (s.entries.map (·.used)).Pairwise (· > ·)
  tickGt : ∀ e ∈ s.entries, e.used < s.tick

theorem expired_iff {ttl now : Int} {e : Entry κ ν} :
    expired ttl now e = true ↔ 0 < ttl ∧ ttl < now - e.created := by
  simp [expired]

theorem mem_remove {k : κ} {es : List (Entry κ ν)} {e : Entry κ ν} :
    e ∈ remove k es ↔ e ∈ es ∧ e.key ≠ k := by
  simp [remove, List.mem_filter]

theorem remove_sublist (k : κ) (es : List (Entry κ ν)) : (remove k es).Sublist es :=
  List.filter_sublist

theorem find?_some {k : κ} {es : List (Entry κ ν)} {e : Entry κ ν} (h : find? k es = some e) :
    e ∈ es ∧ e.key = k :=
  ⟨List.mem_of_find?_eq_some h, by simpa using List.find?_some h⟩

theorem find?_none {k : κ} {es : List (Entry κ ν)} (h : find? k es = none) :
    ∀ e ∈ es, e.key ≠ k := by
  intro e he
  simpa using List.find?_eq_none.mp h e he

theorem remove_length_lt {k : κ} {es : List (Entry κ ν)} {e : Entry κ ν} (h : find? k es = some e) :
    (remove k es).length < es.length :=
  List.length_filter_lt_length_iff_exists.mpr ⟨e, (find?_some h).1, by simp [(find?_some h).2]⟩

theorem remove_of_absent {k : κ} {es : List (Entry κ ν)} (h : find? k es = none) : remove k es = es :=
  List.filter_eq_self.mpr fun e he => by simpa using find?_none h e he

theorem key_notin_remove {k : κ} {e : Entry κ ν} (hk : e.key = k) (es : List (Entry κ ν)) :
    e.key ∉ (remove k es).map (·.key) := by
  intro h
  obtain ⟨x, hx, hxk⟩ := List.mem_map.mp h
  exact (mem_remove.mp hx).2 (hxk.trans hk)

theorem Inv.of_sublist {s s' : State κ ν} (h : Inv s) (hc : s'.cap = s.cap) (ht : s.tick ≤ s'.tick)
    (hsub : s'.entries.Sublist s.entries) : Inv s' where
  capPos := hc ▸ h.capPos
  bounded := hc ▸ Nat.le_trans hsub.length_le h.bounded
  nodup := h.nodup.sublist (hsub.map _)
  recency := h.recency.sublist (hsub.map _)
  tickGt := fun e he => Nat.lt_of_lt_of_le (h.tickGt e (hsub.subset he)) ht

theorem Inv.push {s s' : State κ ν} (h : Inv s) {e : Entry κ ν} {es : List (Entry κ ν)}
    (hc : s'.cap = s.cap) (ht : s'.tick = s.tick + 1) (hes : s'.entries = e :: es)
    (hu : e.used = s.tick) (hk : e.key ∉ es.map (·.key)) (hsub : es.Sublist s.entries)
    (hlen : es.length < s.cap) : Inv s' := by
  have old : ∀ x ∈ es, x.used < s.tick := fun x hx => h.tickGt x (hsub.subset hx)
  refine ⟨hc ▸ h.capPos, ?_, ?_, ?_, ?_⟩
  · rw [hes, hc]; exact hlen
  · rw [hes]; exact List.nodup_cons.mpr ⟨hk, h.nodup.sublist (hsub.map _)⟩
  · rw [hes, List.map_cons, List.pairwise_cons, hu]
    refine ⟨?_, h.recency.sublist (hsub.map _)⟩
    intro u hu'
    obtain ⟨x, hx, rfl⟩ := List.mem_map.mp hu'
    exact old x hx
  · rw [hes, ht]
    intro x hx
    rcases List.mem_cons.mp hx with rfl | hx
    · rw [hu]; exact Nat.lt_succ_self _
    · exact Nat.lt_succ_of_lt (old x hx)

theorem Inv.ne_nil_of_full {s : State κ ν} (h : Inv s) (hfull : s.cap ≤ s.entries.length) : s.entries ≠ [] :=
  fun h0 => by rw [h0] at hfull; exact Nat.lt_irrefl 0 (Nat.lt_of_lt_of_le h.capPos hfull)

theorem get_spec (s : State κ ν) (now : Int) (k : κ) :
    (get s now k = ({ s with entries := remove k s.entries, misses := s.misses + 1 }, none) ∧
      ∀ e, find? k s.entries = some e → expired s.ttl now e = true) ∨
    (∃ e, find? k s.entries = some e ∧ expired s.ttl now e = false ∧
      get s now k = ({ s with entries := { e with used := s.tick } :: remove k s.entries,
                              hits := s.hits + 1, tick := s.tick + 1 }, some e.val)) := by
  unfold get
  cases hf : find? k s.entries with
  | none => exact .inl ⟨by rw [remove_of_absent hf], fun e he => by cases he⟩
  | some e =>
    dsimp only
    cases hx : expired s.ttl now e with
    | true => exact .inl ⟨rfl, fun e' he' => by cases he'; exact hx⟩
    | false => exact .inr ⟨e, rfl, hx, rfl⟩

theorem put_of_present {s : State κ ν} {now : Int} {k : κ} {v : ν} {e : Entry κ ν} (hf : find? k s.entries = some e) :
    put s now k v = { s with entries := { e with val := v, stored := now, used := s.tick } :: remove k s.entries,
                             tick := s.tick + 1 } := by
  unfold put; rw [hf]

theorem put_of_room {s : State κ ν} {now : Int} {k : κ} {v : ν} (hf : find? k s.entries = none)
    (hroom : s.entries.length < s.cap) :
    put s now k v = { s with entries := ⟨k, v, now, now, s.tick⟩ :: s.entries, tick := s.tick + 1 } := by
  unfold put; rw [hf]; exact if_neg (Nat.not_lt.mpr hroom)

theorem put_of_full {s : State κ ν} {now : Int} {k : κ} {v : ν} (hf : find? k s.entries = none)
    (hfull : s.cap ≤ s.entries.length) :
    put s now k v = { s with entries := (⟨k, v, now, now, s.tick⟩ :: s.entries).dropLast,
                             evictions := s.evictions + 1, tick := s.tick + 1 } := by
  unfold put; rw [hf]; exact if_pos (Nat.lt_succ_of_le hfull)

theorem put_spec (s : State κ ν) (now : Int) (k : κ) (v : ν) :
    (∃ e, find? k s.entries = some e ∧
      put s now k v = { s with entries := { e with val := v, stored := now, used := s.tick } :: remove k s.entries,
                               tick := s.tick + 1 }) ∨
    (find? k s.entries = none ∧
      ((s.entries.length < s.cap ∧
        put s now k v = { s with entries := ⟨k, v, now, now, s.tick⟩ :: s.entries, tick := s.tick + 1 }) ∨
       (s.cap ≤ s.entries.length ∧
        put s now k v = { s with entries := (⟨k, v, now, now, s.tick⟩ :: s.entries).dropLast,
                                 evictions := s.evictions + 1, tick := s.tick + 1 }))) := by
  cases hf : find? k s.entries with
  | some e => exact .inl ⟨e, rfl, put_of_present hf⟩
  | none =>
    refine .inr ⟨rfl, ?_⟩
    rcases Nat.lt_or_ge s.entries.length s.cap with hroom | hfull
    · exact .inl ⟨hroom, put_of_room hf hroom⟩
    · exact .inr ⟨hfull, put_of_full hf hfull⟩

theorem delete_fst (s : State κ ν) (k : κ) : (delete s k).1 = { s with entries := remove k s.entries } := by
  unfold delete
  cases hf : find? k s.entries with
  | some e => rfl
  | none => rw [remove_of_absent hf]

theorem sweepRev_spec (ttl now : Int) (l : List (Entry κ ν)) :
    ∃ dropped, l = dropped ++ sweepRev ttl now l ∧ ∀ e ∈ dropped, expired ttl now e = true := by
  induction l with
  | nil => exact ⟨[], rfl, fun _ he => nomatch he⟩
  | cons a as ih =>
    unfold sweepRev
    cases hx : expired ttl now a with
    | false => exact ⟨[], rfl, fun _ he => nomatch he⟩
    | true =>
      obtain ⟨d, hd, hall⟩ := ih
      refine ⟨a :: d, congrArg (a :: ·) hd, ?_⟩
      intro e he
      rcases List.mem_cons.mp he with rfl | he
      · exact hx
      · exact hall e he

theorem cleanup_spec (s : State κ ν) (now : Int) :
    ∃ kept removed, s.entries = kept ++ removed ∧
      cleanup s now = ({ s with entries := kept }, removed.length) ∧
      ∀ e ∈ removed, expired s.ttl now e = true := by
  unfold cleanup
  split
  · exact ⟨s.entries, [], (List.append_nil _).symm, rfl, fun _ he => nomatch he⟩
  · obtain ⟨d, hd, hall⟩ := sweepRev_spec s.ttl now s.entries.reverse
    have hr : s.entries = (sweepRev s.ttl now s.entries.reverse).reverse ++ d.reverse := by
      rw [← List.reverse_append, ← hd, List.reverse_reverse]
    have hlen := congrArg List.length hr
    rw [List.length_append] at hlen
    refine ⟨_, d.reverse, hr, congrArg (Prod.mk _) ?_, fun e he => hall e (List.mem_reverse.mp he)⟩
    rw [hlen]; exact Nat.add_sub_cancel_left _ _

theorem init_inv (d : Nat) (hd : 0 < d) (cap ttl : Int) : Inv (init d cap ttl : State κ ν) := by
  refine ⟨?_, Nat.zero_le _, List.nodup_nil, List.Pairwise.nil, fun e he => by cases he⟩
  show 0 < effCap d cap
  unfold effCap
  split
  · exact hd
  · rename_i hpos
    exact Int.lt_toNat.mpr (Int.not_le.mp hpos)

theorem get_inv {s : State κ ν} (h : Inv s) (now : Int) (k : κ) : Inv (get s now k).1 := by
  rcases get_spec s now k with ⟨hg, _⟩ | ⟨e, hf, _, hg⟩ <;> rw [hg]
  · exact h.of_sublist rfl (Nat.le_refl _) (remove_sublist k _)
  · exact h.push rfl rfl rfl rfl (key_notin_remove (find?_some hf).2 _) (remove_sublist k _)
      (Nat.lt_of_lt_of_le (remove_length_lt hf) h.bounded)

theorem put_inv {s : State κ ν} (h : Inv s) (now : Int) (k : κ) (v : ν) : Inv (put s now k v) := by
  have fresh : find? k s.entries = none → k ∉ s.entries.map (·.key) := fun hf hk =>
    have ⟨x, hx, hxk⟩ := List.mem_map.mp hk
    find?_none hf x hx hxk
  rcases put_spec s now k v with ⟨e, hf, hp⟩ | ⟨hf, ⟨hroom, hp⟩ | ⟨hfull, hp⟩⟩ <;> rw [hp]
  · exact h.push rfl rfl rfl rfl (key_notin_remove (find?_some hf).2 _) (remove_sublist k _)
      (Nat.lt_of_lt_of_le (remove_length_lt hf) h.bounded)
  · exact h.push rfl rfl rfl rfl (fresh hf) (List.Sublist.refl _) hroom
  · have hne := h.ne_nil_of_full hfull
    refine h.push rfl rfl (List.dropLast_cons_of_ne_nil hne) rfl ?_ (List.dropLast_sublist _) ?_
    · exact fun hk => fresh hf ((List.dropLast_sublist _).map _ |>.subset hk)
    · rw [List.length_dropLast]
      exact Nat.lt_of_lt_of_le (Nat.sub_lt (List.length_pos_iff.mpr hne) Nat.one_pos) h.bounded

theorem step_inv {s : State κ ν} (h : Inv s) (now : Int) (op : Op κ ν) : Inv (step s now op).1 := by
  cases op with
  | get k => exact get_inv h now k
  | put k v => exact put_inv h now k v
  | delete k => exact delete_fst s k ▸ h.of_sublist rfl (Nat.le_refl _) (remove_sublist k _)
  | clear => exact h.of_sublist rfl (Nat.le_refl _) (List.nil_sublist _)
  | cleanup =>
    obtain ⟨kept, removed, hr, hc, _⟩ := cleanup_spec s now
    show Inv (cleanup s now).1
    rw [hc]
    exact h.of_sublist rfl (Nat.le_refl _) (hr ▸ List.sublist_append_left kept removed)
  | size => exact h
  | stats => exact h
  | keys => exact h

theorem run_inv {s : State κ ν} (h : Inv s) (hist : List (Int × Op κ ν)) : Inv (final s hist) := by
  induction hist generalizing s with
  | nil => exact h
  | cons a rest ih =>
    obtain ⟨now, op⟩ := a
    exact ih (step_inv h now op)

theorem mem_get {s : State κ ν} {now : Int} {k : κ} {e' : Entry κ ν} (h : e' ∈ (get s now k).1.entries) :
    ∃ e ∈ s.entries, e' = { e with used := e'.used } := by
  rcases get_spec s now k with ⟨hg, _⟩ | ⟨e, hf, _, hg⟩ <;> rw [hg] at h
  · exact ⟨e', (mem_remove.mp h).1, rfl⟩
  · rcases List.mem_cons.mp h with rfl | h
    · exact ⟨e, (find?_some hf).1, rfl⟩
    · exact ⟨e', (mem_remove.mp h).1, rfl⟩

theorem mem_put {s : State κ ν} {now : Int} {k : κ} {v : ν} {e' : Entry κ ν} (h : e' ∈ (put s now k v).entries) :
    (e' ∈ s.entries ∧ e'.key ≠ k) ∨
    (e'.key = k ∧ e'.val = v ∧ e'.stored = now ∧ (e'.created = now ∨ ∃ e ∈ s.entries, e'.created = e.created)) := by
  rcases put_spec s now k v with ⟨e, hf, hp⟩ | ⟨hf, hp⟩
  · rw [hp] at h
    rcases List.mem_cons.mp h with rfl | h
    · exact .inr ⟨(find?_some hf).2, rfl, rfl, .inr ⟨e, (find?_some hf).1, rfl⟩⟩
    · exact .inl (mem_remove.mp h)
  · have h' : e' ∈ (⟨k, v, now, now, s.tick⟩ :: s.entries : List (Entry κ ν)) := by
      rcases hp with ⟨_, hp⟩ | ⟨_, hp⟩ <;> rw [hp] at h
      · exact h
      · exact List.dropLast_subset _ h
    rcases List.mem_cons.mp h' with rfl | h'
    · exact .inr ⟨rfl, rfl, rfl, .inl rfl⟩
    · exact .inl ⟨h', find?_none hf e' h'⟩

theorem mem_delete {s : State κ ν} {k : κ} {e' : Entry κ ν} :
    e' ∈ (delete s k).1.entries ↔ e' ∈ s.entries ∧ e'.key ≠ k := by
  rw [delete_fst]; exact mem_remove

theorem mem_cleanup {s : State κ ν} {now : Int} {e' : Entry κ ν} (h : e' ∈ (cleanup s now).1.entries) :
    e' ∈ s.entries := by
  obtain ⟨kept, removed, hr, hc, _⟩ := cleanup_spec s now
  rw [hc] at h; rw [hr]
  exact List.mem_append_left _ h

theorem get_some {s : State κ ν} {now : Int} {k : κ} {v : ν} (h : (get s now k).2 = some v) :
    ∃ e, e ∈ s.entries ∧ e.key = k ∧ e.val = v ∧ expired s.ttl now e = false := by
  rcases get_spec s now k with ⟨hg, _⟩ | ⟨e, hf, hx, hg⟩ <;> rw [hg] at h
  · cases h
  · exact ⟨e, (find?_some hf).1, (find?_some hf).2, Option.some.inj h, hx⟩

end Wtf.Lru
