import WtfModel.Model.History

/-! C16 over any codec: a history is the window `lastN maxSize` on an unbounded reference log, timestamps in order (`Good`).
    `AddEntry` keeps the window because it looks at the last element only (`specAdd_refines`); what `Save` wrote loads back
    under `Codec.LawsOn`, which asks of the codec only what `Save` / `Load` use. -/
namespace Wtf.History

section
variable {α : Type}

theorem lastN_length (n : Nat) (xs : List α) : (lastN n xs).length = min n xs.length := by
  simp [lastN, List.length_drop]; omega

theorem lastN_of_le {n : Nat} {xs : List α} (h : xs.length ≤ n) : lastN n xs = xs := by
  have : xs.length - n = 0 := by omega
  simp [lastN, this]

theorem lastN_append_singleton {n : Nat} (h : 1 ≤ n) (xs : List α) (x : α) :
    lastN n (xs ++ [x]) = lastN (n - 1) xs ++ [x] := by
  unfold lastN
  have h1 : (xs ++ [x]).length - n = xs.length - (n - 1) := by simp; omega
  rw [h1, List.drop_append_of_le_length (by omega)]

theorem lastN_lastN {k n : Nat} (h : k ≤ n) (xs : List α) : lastN k (lastN n xs) = lastN k xs := by
  unfold lastN
  rw [List.drop_drop, List.length_drop]
  congr 1; omega

theorem lastN_map {β : Type} (f : α → β) (n : Nat) (xs : List α) : (lastN n xs).map f = lastN n (xs.map f) := by
  simp [lastN, List.map_drop]

theorem lastN_nil (n : Nat) : lastN n ([] : List α) = [] := by simp [lastN]

theorem lastN_getLast? {n : Nat} (h : 1 ≤ n) (xs : List α) : (lastN n xs).getLast? = xs.getLast? := by
  rcases List.eq_nil_or_concat xs with rfl | ⟨ys, y, rfl⟩
  · simp [lastN]
  · simp only [List.concat_eq_append]
    rw [lastN_append_singleton h]; simp

theorem lastN_dropLast {n : Nat} (h : 1 ≤ n) (xs : List α) : (lastN n xs).dropLast = lastN (n - 1) xs.dropLast := by
  rcases List.eq_nil_or_concat xs with rfl | ⟨ys, y, rfl⟩
  · simp [lastN]
  · rw [List.concat_eq_append, lastN_append_singleton h, List.dropLast_concat, List.dropLast_concat]

theorem lastN_sublist (n : Nat) (xs : List α) : (lastN n xs).Sublist xs := List.drop_sublist _ _

theorem length_dropLast_append {es : List α} {l : α} (hl : es.getLast? = some l) (e : α) :
    (es.dropLast ++ [e]).length = es.length := by
  have : es ≠ [] := fun h => by simp [h] at hl
  have := List.length_pos_iff.mpr this
  simp; omega

end

/-- what `AddEntry` leaves in `Entries` when the limit `m` is positive -/
def addEntries (m : Nat) (es : List Entry) (e : Entry) : List Entry :=
  match es.getLast? with
  | some l => if l.query = e.query then es.dropLast ++ [e] else lastN m (es ++ [e])
  | none => lastN m (es ++ [e])

theorem addNew_cases (s : State) (e : Entry) :
    addNew s e = if 0 ≤ s.maxSize then .ok { s with entries := lastN s.maxSize.toNat (s.entries ++ [e]) }
      else .error (.sliceBounds ((s.entries.length : Int) + 1 - s.maxSize) (s.entries.length + 1)) := by
  have hlen : ((s.entries ++ [e]).length : Int) = (s.entries.length : Int) + 1 := by simp
  unfold addNew sliceFrom
  simp only [hlen]
  by_cases h0 : 0 ≤ s.maxSize
  · rw [if_pos h0]
    by_cases h : (s.entries.length : Int) + 1 > s.maxSize
    · rw [if_pos h, if_pos ⟨by omega, by omega⟩]
      simp only [lastN]
      congr 3
      simp; omega
    · rw [if_neg h, lastN_of_le (by simp; omega)]
  · rw [if_neg h0, if_pos (by omega), if_neg (by omega), List.length_append]; rfl

theorem addNew_eq {s : State} (hm : 0 < s.maxSize) (e : Entry) :
    addNew s e = .ok { s with entries := lastN s.maxSize.toNat (s.entries ++ [e]) } := by
  rw [addNew_cases, if_pos (by omega)]

theorem add_of_dup {s : State} {l e : Entry} (hl : s.entries.getLast? = some l) (hq : l.query = e.query) :
    add s e = .ok { s with entries := s.entries.dropLast ++ [e] } := by
  simp only [add, hl, hq, ↓reduceIte]

theorem add_of_fresh {s : State} {e : Entry} (hnd : ∀ l, s.entries.getLast? = some l → l.query ≠ e.query) :
    add s e = addNew s e := by
  unfold add
  cases hl : s.entries.getLast? with
  | none => rfl
  | some l => simp only [hnd l hl, ↓reduceIte]

theorem add_eq {s : State} (hm : 0 < s.maxSize) (e : Entry) :
    add s e = .ok { s with entries := addEntries s.maxSize.toNat s.entries e } := by
  unfold add addEntries
  cases h : s.entries.getLast? with
  | none => simp only [addNew_eq hm]
  | some l =>
    by_cases hq : l.query = e.query
    · simp only [hq, ↓reduceIte]
    · simp only [hq, ↓reduceIte, addNew_eq hm]

theorem addEntries_dup {m : Nat} {es : List Entry} {l e : Entry} (hl : es.getLast? = some l) (hq : l.query = e.query) :
    addEntries m es e = es.dropLast ++ [e] := by
  simp only [addEntries, hl, hq, ↓reduceIte]

theorem addEntries_new {m : Nat} {es : List Entry} {e : Entry} (hnd : ∀ l, es.getLast? = some l → l.query ≠ e.query) :
    addEntries m es e = lastN m (es ++ [e]) := by
  unfold addEntries
  cases hl : es.getLast? with
  | none => rfl
  | some l => simp only [hnd l hl, ↓reduceIte]

theorem addEntries_cases (m : Nat) (es : List Entry) (e : Entry) :
    (∃ l, es.getLast? = some l ∧ addEntries m es e = es.dropLast ++ [e]) ∨ addEntries m es e = lastN m (es ++ [e]) := by
  cases hl : es.getLast? with
  | none => exact Or.inr (addEntries_new (fun l h => by rw [hl] at h; cases h))
  | some l =>
    by_cases hq : l.query = e.query
    · exact Or.inl ⟨l, rfl, addEntries_dup hl hq⟩
    · exact Or.inr (addEntries_new (fun l' h => by rw [hl] at h; cases h; exact hq))

theorem addEntries_length_le (m : Nat) (es : List Entry) (e : Entry) :
    (addEntries m es e).length ≤ max m es.length := by
  rcases addEntries_cases m es e with ⟨l, hl, h⟩ | h <;> rw [h]
  · rw [length_dropLast_append hl]; omega
  · simp only [lastN_length, List.length_append, List.length_singleton]; omega

theorem addEntries_getLast? (m : Nat) (hm : 1 ≤ m) (es : List Entry) (e : Entry) :
    (addEntries m es e).getLast? = some e := by
  rcases addEntries_cases m es e with ⟨l, _, h⟩ | h <;> rw [h]
  · simp
  · rw [lastN_getLast? hm]; simp

def Chrono (c : Int) (es : List Entry) : Prop := es.Pairwise (fun a b => a.ts ≤ b.ts) ∧ ∀ e ∈ es, e.ts ≤ c

theorem Chrono.mono {c c' : Int} {es : List Entry} (h : Chrono c es) (hc : c ≤ c') : Chrono c' es :=
  ⟨h.1, fun e he => Int.le_trans (h.2 e he) hc⟩

theorem Chrono.sublist {c : Int} {es es' : List Entry} (h : Chrono c es) (hs : es'.Sublist es) : Chrono c es' :=
  ⟨h.1.sublist hs, fun e he => h.2 e (hs.subset he)⟩

theorem Chrono.append_singleton {c : Int} {es : List Entry} (h : Chrono c es) (e : Entry) (he : c ≤ e.ts) :
    Chrono e.ts (es ++ [e]) := by
  have hle : ∀ a ∈ es, a.ts ≤ e.ts := fun a ha => Int.le_trans (h.2 a ha) he
  refine ⟨List.pairwise_append.mpr ⟨h.1, List.pairwise_singleton _ _, fun a ha b hb => ?_⟩, fun x hx => ?_⟩
  · rw [List.mem_singleton.mp hb]; exact hle a ha
  · rcases List.mem_append.mp hx with hx | hx
    · exact hle x hx
    · rw [List.mem_singleton.mp hx]; exact Int.le_refl _

theorem addEntries_sublist (m : Nat) (es : List Entry) (e : Entry) : (addEntries m es e).Sublist (es ++ [e]) := by
  rcases addEntries_cases m es e with ⟨l, _, h⟩ | h <;> rw [h]
  · exact (List.dropLast_sublist es).append_right [e]
  · exact lastN_sublist _ _

/-- a window of `m ≥ 1` elements on the unbounded log stays one when the same entry is added to both: the window shows the
    last element, which is all that `specAdd` looks at -/
theorem specAdd_refines {m : Nat} (hm : 1 ≤ m) {es : List Entry} {log : List Core}
    (h : es.map Entry.core = lastN m log) (e : Entry) :
    (addEntries m es e).map Entry.core = lastN m (specAdd log e.core) := by
  have hlast : es.getLast?.map Entry.core = log.getLast? := by rw [← List.getLast?_map, h, lastN_getLast? hm]
  have hdrop : es.dropLast.map Entry.core = lastN (m - 1) log.dropLast := by rw [List.map_dropLast, h, lastN_dropLast hm]
  have hnew : (lastN m (es ++ [e])).map Entry.core = lastN m (log ++ [e.core]) := by
    rw [lastN_map, List.map_append, h, List.map_singleton, lastN_append_singleton hm, lastN_append_singleton hm,
      lastN_lastN (by omega)]
  unfold addEntries specAdd
  rw [← hlast]
  cases hl : es.getLast? with
  | none => rw [List.getLast?_eq_none_iff.mp hl]; exact lastN_map _ _ _
  | some l =>
    by_cases hq : l.query = e.query
    · simp only [Option.map_some, Entry.core, hq, if_true]
      rw [List.map_append, hdrop, lastN_append_singleton hm]; rfl
    · simp only [Option.map_some, Entry.core, hq, if_false]
      exact hnew

/-- the strings of an entry survive encoding/json, its instant has an RFC 3339 text, its integers fit Go's `int` -/
def Entry.Valid (valid : Bytes → Prop) (okT okI : Int → Prop) (e : Entry) : Prop :=
  valid e.query ∧ valid e.context ∧ okT e.ts ∧ okI e.results ∧ okI e.duration

/-- What is known of a history `s` that stands for the unbounded log `L` at clock reading `c`; `Q` is what is known about
    every limit that occurs.  `Inv` (HistoryRun.lean) says it of the state in memory, `FileInv` of the state last saved. -/
def Good (valid : Bytes → Prop) (okT okI Q : Int → Prop) (c : Int) (s : State) (L : List Core) : Prop :=
  Q s.maxSize ∧ (s.entries.length : Int) ≤ s.maxSize ∧ Chrono c s.entries ∧ (∀ e ∈ s.entries, e.Valid valid okT okI) ∧
    s.entries.map Entry.core = lastN s.maxSize.toNat L

section
variable {valid : Bytes → Prop} {okT okI Q : Int → Prop} {c : Int}

theorem Good.empty {m : Int} (hq : Q m) (hm : 0 < m) (c : Int) : Good valid okT okI Q c ⟨[], m⟩ [] :=
  ⟨hq, Int.le_of_lt hm, ⟨.nil, fun _ h => absurd h List.not_mem_nil⟩, fun _ h => absurd h List.not_mem_nil, (lastN_nil _).symm⟩

theorem Good.mono {c' : Int} {s : State} {L : List Core} (h : Good valid okT okI Q c s L) (hc : c ≤ c') :
    Good valid okT okI Q c' s L :=
  ⟨h.1, h.2.1, h.2.2.1.mono hc, h.2.2.2⟩

theorem Good.add {s : State} {L : List Core} (h : Good valid okT okI Q c s L) (hm : 0 < s.maxSize) {e : Entry}
    (hc : c ≤ e.ts) (hv : e.Valid valid okT okI) :
    Good valid okT okI Q e.ts { s with entries := addEntries s.maxSize.toNat s.entries e } (specAdd L e.core) := by
  obtain ⟨hq, hb, hch, hval, href⟩ := h
  have hsub := addEntries_sublist s.maxSize.toNat s.entries e
  refine ⟨hq, ?_, (hch.append_singleton e hc).sublist hsub, fun x hx => ?_, specAdd_refines (by omega) href e⟩
  · have := addEntries_length_le s.maxSize.toNat s.entries e
    show ((addEntries s.maxSize.toNat s.entries e).length : Int) ≤ s.maxSize
    omega
  · rcases List.mem_append.mp (hsub.subset hx) with hx | hx
    · exact hval x hx
    · rw [List.mem_singleton.mp hx]; exact hv

end

section
variable {F : Type} (C : Codec F)

/-- The codec laws as far as `Save` / `Load` use them: the parser reads back the documents `Save` writes
    (not every `JVal`), strings in `valid` survive, instants in `okT` survive; `okI` is the range of the integers written.
    `Codec.Laws` (all values, all instants) implies them; the executable codec of `Model/HistoryJson.lean` satisfies THESE
    for valid UTF-8, calendar instants of the years 1 .. 9999 and int64 (`goCodec_lawsOn`), which it could not for
    `Codec.Laws`. -/
structure Codec.LawsOn (valid : Bytes → Prop) (okT okI : Int → Prop) : Prop where
  parse_print : ∀ s : State, okI s.maxSize → (∀ e ∈ s.entries, e.Valid valid okT okI) → C.parse (C.print (encode C s)) = some (encode C s)
  print_nonempty : ∀ s : State, C.isEmpty (C.print (encode C s)) = false
  unquote_quote : ∀ b, valid b → C.unquote (C.quote b) = b
  parseTime_fmtTime : ∀ t, okT t → C.parseTime (C.fmtTime t) = some t

theorem Codec.Laws.on {valid : Bytes → Prop} (L : C.Laws valid) : Codec.LawsOn C valid (fun _ => True) (fun _ => True) :=
  ⟨fun _ _ _ => L.parse_print _, fun _ => L.print_nonempty _, L.unquote_quote, fun t _ => L.parseTime_fmtTime t⟩

/-- the limit `Load` leaves in force when the receiver holds `cur` and the file says `k` -/
def limitAfterLoad (P : Params) (cur k : Int) : Int :=
  let m1 : Int := if P.loadGuard then (if 0 < k then k else cur) else k
  match P.loadFallback with
  | some n => if m1 ≤ 0 then n else m1
  | none => m1

theorem limitAfterLoad_of_pos (P : Params) (cur : Int) {k : Int} (hk : 0 < k) : limitAfterLoad P cur k = k := by
  have hnp : ¬ k ≤ 0 := by omega
  unfold limitAfterLoad
  cases P.loadGuard <;> cases P.loadFallback <;> simp [hk, hnp]

theorem load_fst_cases (P : Params) (s : State) (file : Option F) :
    (load C P s file).1 = s ∨ ∃ d : DState, (load C P s file).1 = ⟨d.entries, limitAfterLoad P s.maxSize d.maxSize⟩ := by
  fun_cases load C P s file with
  | case1 | case2 | case3 | case4 => exact .inl rfl
  | case5 => exact .inr ⟨_, rfl⟩

variable {C} {valid : Bytes → Prop} {okT okI : Int → Prop} (L : Codec.LawsOn C valid okT okI)

include L in
/-- `+decide`: the comparisons of (folded) field names that select the field are closed and are evaluated -/
theorem storeEntry_enc (e : Entry) (hv : e.Valid valid okT okI) :
    storeEntry C Entry.zero (encEntry C e) = ⟨e, false, false⟩ := by
  obtain ⟨q, t, r, c, d⟩ := e
  have hq : C.unquote (C.quote q) = q := L.unquote_quote q hv.1
  have hc : C.unquote (C.quote c) = c := L.unquote_quote c hv.2.1
  have ht : C.parseTime (C.fmtTime t) = some t := L.parseTime_fmtTime t hv.2.2.1
  by_cases h1 : c = [] <;> by_cases h2 : d = 0 <;>
    simp +decide [storeEntry, encEntry, foldDec, storeEntryField, storeStr, storeInt, storeTime, Entry.zero, hq, hc, ht, h1, h2]

include L in
theorem storeElems_enc (es : List Entry) (hv : ∀ e ∈ es, e.Valid valid okT okI)
    (done : List Entry) (err : Bool) :
    storeElems C (es.map (encEntry C)) done [] err = ⟨(done ++ es, []), err, false⟩ := by
  induction es generalizing done err with
  | nil => simp [storeElems]
  | cons e es ih =>
    have he := storeEntry_enc L e (hv e (by simp))
    simp only [List.map_cons, storeElems, List.head?_nil, Option.getD_none, he, Bool.false_eq_true, ↓reduceIte,
      List.drop_nil, Bool.or_false]
    rw [ih (fun x hx => hv x (by simp [hx]))]
    simp

include L in
theorem unmarshal_encode (s : State) (hv : ∀ e ∈ s.entries, e.Valid valid okT okI) :
    unmarshal C DState.zero (encode C s) = (⟨s.entries, s.maxSize, []⟩, false) := by
  have h := storeElems_enc L s.entries hv [] false
  by_cases hn : s.entries = []
  · simp +decide [unmarshal, encode, foldDec, storeTopField, storeEntries, storeInt, DState.zero, hn, storeElems]
  · have hne : s.entries.isEmpty = false := by simpa using hn
    simp +decide [unmarshal, encode, foldDec, storeTopField, storeEntries, storeInt, DState.zero, h, hne]

theorem load_of_unmarshal (P : Params) (s : State) {data : F} {v : JVal} {d : DState} (he : C.isEmpty data = false)
    (hp : C.parse data = some v) (hu : unmarshal C DState.zero v = (d, false)) :
    load C P s (some data) = (⟨d.entries, limitAfterLoad P s.maxSize d.maxSize⟩, none) := by
  simp only [load, he, hp, hu, Bool.false_eq_true, ↓reduceIte]
  rfl

include L in
theorem load_saveBytes (P : Params) (r s : State)
    (hm : 0 < s.maxSize) (hi : okI s.maxSize) (hv : ∀ e ∈ s.entries, e.Valid valid okT okI) :
    load C P r (some (saveBytes C s)) = (s, none) := by
  rw [saveBytes, load_of_unmarshal P r (L.print_nonempty s) (L.parse_print s hi hv) (unmarshal_encode L s hv),
    limitAfterLoad_of_pos P _ hm]

end

/-! ### parameters under which a file can never install a non-positive limit -/

structure ParamsOk (P : Params) : Prop where
  newDefault_pos : 0 < P.newDefault
  protects : P.loadGuard = true ∨ ∃ n, P.loadFallback = some n
  fallback_pos : ∀ n, P.loadFallback = some n → 0 < n

theorem new_maxSize_pos {P : Params} (hP : ParamsOk P) (m : Int) : 0 < (new P m).maxSize := by
  unfold new
  by_cases h : m ≤ 0
  · simp [h, hP.newDefault_pos]
  · simp [h]; omega

theorem new_maxSize {P : Params} (m : Int) : (new P m).maxSize = if m ≤ 0 then P.newDefault else m := rfl

theorem limitAfterLoad_pos {P : Params} (hP : ParamsOk P) {cur : Int} (hc : 0 < cur) (k : Int) :
    0 < limitAfterLoad P cur k := by
  fun_cases limitAfterLoad P cur k with
  | case1 m1 n hfb h => exact hP.fallback_pos n hfb
  | case2 m1 n hfb h => omega
  | case3 m1 hfb =>
    have hg : P.loadGuard = true := hP.protects.resolve_right (fun ⟨_, h⟩ => by rw [hfb] at h; cases h)
    simp only [m1, hg, if_true]
    split <;> omega

theorem load_maxSize_pos {F : Type} (C : Codec F) {P : Params} (hP : ParamsOk P) (s : State) (hm : 0 < s.maxSize)
    (file : Option F) : 0 < (load C P s file).1.maxSize := by
  rcases load_fst_cases C P s file with h | ⟨d, h⟩
  · rw [h]; exact hm
  · rw [h]; exact limitAfterLoad_pos hP hm _

/-- executable check of `ParamsOk` (so that the regenerated facts are discharged by `decide`) -/
def paramsOkB (P : Params) : Bool :=
  decide (0 < P.newDefault) && (P.loadGuard || P.loadFallback.isSome) &&
    (match P.loadFallback with
     | some n => decide (0 < n)
     | none => true)

theorem paramsOk_of_check {P : Params} (h : paramsOkB P = true) : ParamsOk P := by
  obtain ⟨d, g, f⟩ := P
  cases f with
  | none =>
    simp only [paramsOkB, Option.isSome_none, Bool.or_false, Bool.and_true, Bool.and_eq_true, decide_eq_true_eq] at h
    exact ⟨h.1, .inl h.2, nofun⟩
  | some n =>
    simp only [paramsOkB, Option.isSome_some, Bool.or_true, Bool.and_true, Bool.and_eq_true, decide_eq_true_eq] at h
    exact ⟨h.1, .inr ⟨n, rfl⟩, fun _ hn => Option.some.inj hn ▸ h.2⟩

end Wtf.History
