import WtfModel.Proofs.SearchBasic
import WtfModel.Proofs.Fallback
/-
  `search` (SearchUniversal) taken apart once: the NLP analysis in force, the query terms, the score map, the
  ranked tail; the *lexical* answer (BM25F over the index, with the NLP stages when enabled) or — exactly when no
  document scored, which covers the exit for a query without terms — the typo fallback when it is enabled, otherwise
  the empty answer.  Every proof about `search` starts from `search_eq` / `lexical_eq` and their elimination lemmas.
  Core Lean only.
-/
namespace Wtf.Search
open Text Index ScoreOps

def orElse {α ε : Type} (l : Option α) (fb : Except ε α) : Except ε α :=
  match l with
  | some r => .ok r
  | none => fb

/-- two exits with the same fallback: `orElse` of the two-exit option -/
theorem ite_ite_eq_orElse {α ε : Type} (c d : Prop) [Decidable c] [Decidable d] (A : Except ε α) (X : α) :
    (if c then A else if d then A else .ok X) =
      orElse (if c then none else if d then none else some X) A := by
  by_cases hc : c <;> by_cases hd : d <;> simp [hc, hd, orElse]

variable {S : Type} [ScoreOps S]
variable (T : Tuning S) (db : Db) (q : Bytes) (o : Opts S)

def pqOf (T : Tuning S) (q : Bytes) (o : Opts S) : Option (NlpOut S) :=
  if o.useNLP then some (T.nlp (T.normQ q)) else none

omit [ScoreOps S] in
theorem pqOf_off {T : Tuning S} {q : Bytes} {o : Opts S} (hn : o.useNLP = false) : pqOf T q o = none := by
  rw [pqOf, hn]; rfl

omit [ScoreOps S] in
theorem pqOf_eq_some {T : Tuning S} {q : Bytes} {o : Opts S} {n : NlpOut S} (h : pqOf T q o = some n) :
    n = T.nlp (T.normQ q) :=
  (Option.some.inj (Option.ite_none_right_eq_some.mp h).2).symm

def termsOf (T : Tuning S) (q : Bytes) (o : Opts S) : List Token :=
  match pqOf T q o with
  | some n => enhanceTerms (tokenize (T.normQ q)) n.enhanced
  | none => tokenize (T.normQ q)

def scoresOf (T : Tuning S) (db : Db) (q : Bytes) (o : Opts S) : List (Nat × S) :=
  initialScores T db (build db) o (pqOf T q o) (selectTopTerms T (build db) (termsOf T q o) (effCap o))

/-- the optional stages of `applyPostScoringBoosts` -/
def rerankOpt (T : Tuning S) (o : Opts S) (nq : Bytes) (limit : Nat) (r0 : List (Nat × S)) : List (Nat × S) :=
  if o.useNLP then rerank T nq limit r0 else r0

def cascadeOpt (pq : Option (NlpOut S)) (r1 : List (Nat × S)) : List (Nat × S) :=
  match pq with | some n => cascadeStage n r1 | none => r1

def lexicalTail (T : Tuning S) (db : Db) (o : Opts S) (nq : Bytes) (pq : Option (NlpOut S)) (limit : Nat)
    (scores : List (Nat × S)) : List (Nat × S) :=
  (cascadeOpt pq (rerankOpt T o nq limit (sortDesc (·.2) (collect T db o pq scores)))).take limit

/-- the lexical / NLP answer, `none` on the two "nothing" exits of SearchUniversal -/
def lexical (T : Tuning S) (db : Db) (q : Bytes) (o : Opts S) : Option (List (Nat × S)) :=
  let idx := build db
  let limit := effLimit o
  let nq := T.normQ q
  let terms0 := tokenize nq
  let pq : Option (NlpOut S) := if o.useNLP then some (T.nlp nq) else none
  let terms1 := match pq with | some n => enhanceTerms terms0 n.enhanced | none => terms0
  if terms1.isEmpty then none else
  let terms := selectTopTerms T idx terms1 (effCap o)
  let scores := initialScores T db idx o pq terms
  if scores.isEmpty then none else
  let r0 := sortDesc (·.2) (collect T db o pq scores)
  let r1 := if o.useNLP then rerank T nq limit r0 else r0
  let r2 := match pq with | some n => cascadeStage n r1 | none => r1
  some (r2.take limit)

/-- what SearchUniversal returns on the "nothing" exits -/
def fallback (T : Tuning S) (db : Db) (q : Bytes) (o : Opts S) : Except Fuzzy.Panic (List (Nat × S)) :=
  if o.useFuzzy then fuzzySearch T db (T.normQ q) o (effLimit o) else .ok []

theorem fallback_off {T : Tuning S} {db : Db} {q : Bytes} {o : Opts S} (hf : o.useFuzzy = false) :
    fallback T db q o = .ok [] := by
  rw [fallback, hf]; rfl

/-- without a term nothing scores: the first "nothing" exit of SearchUniversal is a case of the second -/
theorem lexical_eq :
    lexical T db q o =
      if (scoresOf T db q o).isEmpty then none
      else some (lexicalTail T db o (T.normQ q) (pqOf T q o) (effLimit o) (scoresOf T db q o)) := by
  have e : lexical T db q o = if (termsOf T q o).isEmpty then none else if (scoresOf T db q o).isEmpty then none
      else some (lexicalTail T db o (T.normQ q) (pqOf T q o) (effLimit o) (scoresOf T db q o)) := rfl
  rw [e]
  split
  · rename_i h
    rw [scoresOf, List.isEmpty_iff.mp h]
    simp [selectTopTerms, initialScores]
  · rfl

theorem search_eq :
    search T db q o = orElse (lexical T db q o) (fallback T db q o) :=
  ite_ite_eq_orElse _ _ _ _

theorem lexical_useFuzzy (b : Bool) :
    lexical T db q { o with useFuzzy := b } = lexical T db q o := rfl

theorem lexical_some {T : Tuning S} {db : Db} {q : Bytes} {o : Opts S} {r : List (Nat × S)}
    (h : lexical T db q o = some r) :
    (scoresOf T db q o).isEmpty = false ∧
      r = lexicalTail T db o (T.normQ q) (pqOf T q o) (effLimit o) (scoresOf T db q o) := by
  rw [lexical_eq] at h
  split at h
  · cases h
  · exact ⟨Bool.eq_false_iff.mpr ‹_›, (Option.some.inj h).symm⟩

theorem search_ok {T : Tuning S} {db : Db} {q : Bytes} {o : Opts S} {r : List (Nat × S)}
    (h : search T db q o = .ok r) :
    lexical T db q o = some r ∨ (lexical T db q o = none ∧ fallback T db q o = .ok r) := by
  rw [search_eq] at h
  cases hl : lexical T db q o with
  | some r' => rw [hl] at h; cases h; exact .inl rfl
  | none => rw [hl] at h; exact .inr ⟨rfl, h⟩

theorem search_error {T : Tuning S} {db : Db} {q : Bytes} {o : Opts S} {e : Fuzzy.Panic}
    (h : search T db q o = .error e) : lexical T db q o = none ∧ fallback T db q o = .error e := by
  rw [search_eq] at h
  cases hl : lexical T db q o with
  | some r => rw [hl] at h; cases h
  | none => rw [hl] at h; exact ⟨rfl, h⟩

theorem fallback_ok {T : Tuning S} {db : Db} {q : Bytes} {o : Opts S} {r : List (Nat × S)}
    (h : fallback T db q o = .ok r) :
    (o.useFuzzy = true ∧ fuzzySearch T db (T.normQ q) o (effLimit o) = .ok r) ∨ (o.useFuzzy = false ∧ r = []) := by
  unfold fallback at h
  split at h
  · rename_i hu; exact .inl ⟨hu, h⟩
  · rename_i hu; cases h; exact .inr ⟨Bool.eq_false_iff.mpr hu, rfl⟩

theorem fallback_error {T : Tuning S} {db : Db} {q : Bytes} {o : Opts S} {e : Fuzzy.Panic}
    (h : fallback T db q o = .error e) :
    o.useFuzzy = true ∧ fuzzySearch T db (T.normQ q) o (effLimit o) = .error e := by
  unfold fallback at h
  split at h
  · rename_i hu; exact ⟨hu, h⟩
  · cases h

/-- the model of `SearchUniversal` can only fail inside the typo matcher (Go: index out of range in
    sahilm/fuzzy); that this cannot happen for the NUL-free targets it is given is `C07.no_panic` (property C10) -/
theorem search_error_only_fuzzy (e : Fuzzy.Panic)
    (h : search T db q o = .error e) :
    o.useFuzzy = true ∧ Fuzzy.findNoSort T.ri (T.normQ q) (db.map fuzzyTarget) = .error e := by
  obtain ⟨hu, hz⟩ := fallback_error (search_error h).2
  rw [fuzzySearch_eq] at hz
  refine ⟨hu, ?_⟩
  generalize Fuzzy.findNoSort T.ri (T.normQ q) (db.map fuzzyTarget) = x at hz ⊢
  cases x with
  | error e' => cases hz; rfl
  | ok ms => cases hz

omit [ScoreOps S] in
theorem effLimit_pos : 0 < effLimit o := by
  unfold effLimit
  split
  · decide
  · omega

omit [ScoreOps S] in
theorem effLimit_spec :
    (o.limit ≤ 0 → effLimit o = defaultLimit) ∧ (0 < o.limit → (effLimit o : Int) = o.limit) := by
  unfold effLimit
  constructor
  · intro h; simp [h]
  · intro h
    have : ¬ o.limit ≤ 0 := by omega
    simp only [this, ↓reduceIte]
    omega

theorem length_cascadeOpt (pq : Option (NlpOut S)) (r : List (Nat × S)) : (cascadeOpt pq r).length = r.length := by
  cases pq with
  | none => rfl
  | some n => exact length_cascadeStage n r

/-- the re-rank window is at least `limit` wide: under the final cut the re-rank loses nothing -/
theorem min_length_rerankOpt (nq : Bytes) (limit : Nat) (r : List (Nat × S)) :
    min limit (rerankOpt T o nq limit r).length = min limit r.length := by
  unfold rerankOpt
  split
  · rw [length_rerank]
    split
    · rw [winLen, ← Nat.min_assoc, Nat.min_eq_left (le_rerankWidth limit)]
    · rfl
  · rfl

theorem length_lexicalTail (nq : Bytes) (pq : Option (NlpOut S)) (limit : Nat) {scores : List (Nat × S)}
    (hinv : ScoresInv T db o scores) : (lexicalTail T db o nq pq limit scores).length = min limit scores.length := by
  rw [lexicalTail, List.length_take, length_cascadeOpt, min_length_rerankOpt, length_sortDesc, length_collect pq hinv]

theorem scoresOf_inv : ScoresInv T db o (scoresOf T db q o) := initialScores_inv ..

theorem lexical_ne_nil {T : Tuning S} {db : Db} {q : Bytes} {o : Opts S} {r : List (Nat × S)}
    (h : lexical T db q o = some r) : r ≠ [] := by
  obtain ⟨hs, rfl⟩ := lexical_some h
  refine List.ne_nil_of_length_pos ?_
  rw [length_lexicalTail T db o _ _ _ (scoresOf_inv T db q o)]
  exact Nat.lt_min.mpr ⟨effLimit_pos o, List.length_pos_iff.mpr (by intro he; rw [he] at hs; cases hs)⟩

/-- a query without terms scores nothing (`lexical_eq`), so a non-empty score table is the whole premise -/
theorem search_ne_nil {T : Tuning S} {db : Db} {q : Bytes} {o : Opts S} {r : List (Nat × S)}
    (h : search T db q o = .ok r) (hsc : (scoresOf T db q o).isEmpty = false) : r ≠ [] := by
  rcases search_ok h with hl | ⟨hn, _⟩
  · exact lexical_ne_nil hl
  · rw [lexical_eq, hsc] at hn
    cases hn

/-- rerankWithNLP's effect on one score inside a window of `k` candidates -/
def rerankScore (T : Tuning S) (nq : Bytes) (k : Nat) (d : Nat) (s : S) : S :=
  match T.tfidf with
  | none => s
  | some rank => blend ((rank nq).take k) d s

/-- everything after `calculateInitialScores`, for one document; of the request it reads `useNLP` and
    `pipelineBoost` only -/
def postScore (T : Tuning S) (o : Opts S) (nq : Bytes) (pq : Option (NlpOut S)) (k : Nat) (d : Nat) (c : Cmd) (s0 : S) : S :=
  let s1 := collectScore T o pq d c s0
  let s2 := if o.useNLP then rerankScore T nq k d s1 else s1
  match pq with
  | some n => mul s2 (n.cascade d)
  | none => s2

theorem mem_rerankOpt {T : Tuning S} {o : Opts S} {nq : Bytes} {limit : Nat} {r : List (Nat × S)} {d : Nat} {s : S}
    (h : (d, s) ∈ rerankOpt T o nq limit r) :
    ∃ s', (d, s') ∈ r ∧ s = if o.useNLP then rerankScore T nq (winLen limit r.length) d s' else s' := by
  unfold rerankOpt at h
  split at h
  · rename_i hn
    simp only [hn, ↓reduceIte, rerankScore]
    rw [rerank_eq] at h
    generalize T.tfidf = t at h ⊢
    cases t with
    | none => exact ⟨s, h, rfl⟩
    | some rank =>
      obtain ⟨x, hx, e⟩ := mem_rescore.mp (mem_sortDesc.mp h)
      cases e
      exact ⟨x.2, List.mem_of_mem_take hx, by rw [rerankWindow, List.length_take]; rfl⟩
  · rename_i hn
    simp only [hn]
    exact ⟨s, h, rfl⟩

theorem mem_cascadeOpt {pq : Option (NlpOut S)} {r : List (Nat × S)} {d : Nat} {s : S} (h : (d, s) ∈ cascadeOpt pq r) :
    ∃ s', (d, s') ∈ r ∧ s = match (generalizing := false) pq with | some n => mul s' (n.cascade d) | none => s' := by
  cases pq with
  | none => exact ⟨s, h, rfl⟩
  | some n =>
    obtain ⟨x, hx, e⟩ := mem_cascadeStage.mp h
    cases e
    exact ⟨x.2, hx, rfl⟩

theorem mem_lexicalTail {T : Tuning S} {db : Db} {nq : Bytes} {o : Opts S} {pq : Option (NlpOut S)} {limit : Nat}
    {scores : List (Nat × S)} {d : Nat} {s : S} (h : (d, s) ∈ lexicalTail T db o nq pq limit scores) :
    ∃ s0 c, (d, s0) ∈ scores ∧ db[d]? = some c ∧
      s = postScore T o nq pq (winLen limit (collect T db o pq scores).length) d c s0 := by
  obtain ⟨s2, h2, e2⟩ := mem_cascadeOpt (List.mem_of_mem_take h)
  obtain ⟨s1, h1, e1⟩ := mem_rerankOpt h2
  obtain ⟨s0, c, hm, hc, e0⟩ := mem_collect.mp (mem_sortDesc.mp h1)
  rw [length_sortDesc] at e1
  exact ⟨s0, c, hm, hc, by rw [e2, e1, e0]; rfl⟩

theorem lexical_eligible {T : Tuning S} {db : Db} {q : Bytes} {o : Opts S} {r : List (Nat × S)}
    (h : lexical T db q o = some r) : ∀ x ∈ r, Eligible T db o x.1 := by
  obtain ⟨_, rfl⟩ := lexical_some h
  intro x hx
  obtain ⟨s0, _, hm, _⟩ := mem_lexicalTail hx
  exact (scoresOf_inv T db q o).2 _ (List.mem_map_of_mem (f := (·.1)) hm)

theorem ids_lexicalTail_perm (nq : Bytes) (pq : Option (NlpOut S)) {limit : Nat}
    {scores : List (Nat × S)} (hinv : ScoresInv T db o scores) (h : scores.length ≤ limit) :
    ((lexicalTail T db o nq pq limit scores).map (·.1)).Perm (scores.map (·.1)) := by
  have h0 : ((sortDesc (·.2) (collect T db o pq scores)).map (·.1)).Perm (scores.map (·.1)) :=
    collect_ids pq hinv ▸ sortDesc_map_perm _ _ _
  have h1 : ((rerankOpt T o nq limit (sortDesc (·.2) (collect T db o pq scores))).map (·.1)).Perm (scores.map (·.1)) := by
    unfold rerankOpt
    split
    · refine (rerank_ids_perm_of_le T nq limit _ ?_).trans h0
      rwa [length_sortDesc, length_collect pq hinv]
    · exact h0
  have h2 : ((cascadeOpt pq (rerankOpt T o nq limit (sortDesc (·.2) (collect T db o pq scores)))).map (·.1)).Perm
      (scores.map (·.1)) := by
    cases pq with
    | none => exact h1
    | some n => exact (cascade_ids_perm n _).trans h1
  unfold lexicalTail
  rw [List.take_of_length_le]
  · exact h2
  · have hl := h2.length_eq
    simp only [List.length_map] at hl
    omega

theorem search_ids_perm (hf : o.useFuzzy = false)
    (hlim : db.length ≤ effLimit o) :
    ∃ res, search T db q o = .ok res ∧ (res.map (·.1)).Perm ((scoresOf T db q o).map (·.1)) := by
  rw [search_eq, lexical_eq, fallback_off hf]
  split
  · rename_i hs
    rw [List.isEmpty_iff.mp hs]
    exact ⟨[], rfl, List.Perm.refl _⟩
  · exact ⟨_, rfl, ids_lexicalTail_perm T db o _ _ (scoresOf_inv T db q o)
      (Nat.le_trans (scores_length_le (scoresOf_inv T db q o)) hlim)⟩

theorem lexical_none_or (T : Tuning S) (db : Db) (q : Bytes) (o : Opts S) :
    lexical T db q o = none ∨ ∃ r, lexical T db q o = some r := by
  cases lexical T db q o with
  | none => exact Or.inl rfl
  | some r => exact Or.inr ⟨r, rfl⟩

end Wtf.Search
