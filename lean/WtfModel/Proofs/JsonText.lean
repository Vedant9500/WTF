import WtfModel.Model.JsonText
import WtfModel.Proofs.KeyJson
import WtfModel.Proofs.Utf8
import WtfModel.Proofs.CliDecimal

/-!
  The JSON block of `wtf --format json` is a JSON text (C17b).  Core Lean only.

  `Parses pv e v`: the reader `pv` reads the bytes `e` as the value `v`, whatever white space precedes them, and stops
  right after them (what follows must not continue a number: `KeyJson.NumEnd`).
    strings   `parseStr_body`: by induction over the input as utf8.DecodeRune reads it (`Utf8.decode_induction`: a rejected
              byte, or the encoding of a scalar value -- an ASCII byte, or a lead byte with continuation bytes).  The encoder's
              text for each -- an escape for the rejected byte, for `"` `\` controls `<` `>` `&` and for U+2028/9, the bytes
              themselves otherwise -- is read back as the bytes themselves (U+FFFD for the rejected byte) and nothing in it is a
              raw quote, backslash or control byte.
    numbers   a token the nine-state automaton accepts lies in the number alphabet; the longest such run is the token
              itself because the next byte is outside the alphabet; `%d` integers are tokens (`isNumTok_intDec`)
    arrays, objects   `loop_join`: by induction over the items, for any loop that reads one item per round (`Round`: the element
              loop by `parseElems_step`, the member loop by `parseMembers_step`); the byte budget never runs out because every
              round consumes the separating comma; `parses_seq` adds the brackets and the SetIndent layout (`nl_ws`: line break,
              prefix and indentation are white space, `indentOK`)
  Also defined here: `jsonStrF`, the string encoder by recursion on a byte budget, which `decide` can run (`jsonStrF_eq`); the
  test vectors of Props/C17b use it.
-/
namespace Wtf.JsonText
open Wtf.Cli Wtf.Utf8 Wtf.KeyJson

def AllWs (w : Bytes) : Prop := ∀ c ∈ w, isWs c = true

theorem skipWs_append {w : Bytes} (h : AllWs w) (r : Bytes) : skipWs (w ++ r) = skipWs r := by
  induction w with
  | nil => rfl
  | cons c t ih =>
    have hc : isWs c = true := h c (by simp)
    have ht : AllWs t := fun x hx => h x (by simp [hx])
    simp [skipWs, hc, ih ht]

theorem skipWs_cons {c : UInt8} (h : isWs c = false) (r : Bytes) : skipWs (c :: r) = c :: r := by
  simp [skipWs, h]

theorem parseStrAux_copy (pre r : Bytes) :
    parseStrAux pre.length (pre ++ r) = (parseStrAux 0 r).map (fun p => (pre ++ p.1, p.2)) := by
  induction pre with
  | nil => cases h : parseStrAux 0 r <;> simp [h]
  | cons b t ih =>
    simp only [List.length_cons, List.cons_append, parseStrAux, ih, Option.map_map]
    rfl

theorem hexVal_hexDigit (d : Nat) (h : d < 16) : hexVal (hexDigit d) = some d :=
  (by decide : ∀ d : Fin 16, hexVal (hexDigit d.val) = some d.val) ⟨d, h⟩

theorem parseStrAux_quote (r : Bytes) : parseStrAux 0 (0x22 :: r) = some ([], r) := by
  rw [parseStrAux.eq_def]; simp

theorem parseStrAux_short {e c : UInt8} (he : e.toNat ≠ 0x75) (hc : unescape e = some c) (x : Bytes) :
    parseStrAux 0 (0x5C :: e :: x) = (parseStrAux 0 x).map (fun p => (c :: p.1, p.2)) := by
  rw [parseStrAux.eq_def]
  simp only [if_neg (show (0x5C : UInt8).toNat ≠ 0x22 by decide), if_pos (show (0x5C : UInt8).toNat = 0x5C by decide),
    if_neg he, hc]

theorem parseStrAux_ascii {c : UInt8} (h0 : 0x20 ≤ c.toNat) (h1 : c.toNat < 0x80) (h2 : c.toNat ≠ 0x22) (h3 : c.toNat ≠ 0x5C)
    (x : Bytes) : parseStrAux 0 (c :: x) = (parseStrAux 0 x).map (fun p => (c :: p.1, p.2)) := by
  rw [parseStrAux.eq_def]
  simp only [if_neg h2, if_neg h3, if_neg (Nat.not_lt.mpr h0), if_pos h1]

theorem parseStrAux_u {h1 h2 h3 h4 : UInt8} {code : Nat} (hh : hex4 h1 h2 h3 h4 = some code)
    (hs : ¬ (0xD800 ≤ code ∧ code ≤ 0xDFFF)) (x : Bytes) :
    parseStrAux 0 (0x5C :: 0x75 :: h1 :: h2 :: h3 :: h4 :: x)
      = (parseStrAux 0 x).map (fun p => (encodeRune code ++ p.1, p.2)) := by
  rw [parseStrAux.eq_def]
  simp [hh, hs]

theorem shortTable_unescape : ∀ p ∈ shortTable, p.2.toNat ≠ 0x75 ∧ unescape p.2 = some p.1 := by decide

theorem parseStrAux_escByte {b : UInt8} (hb : b.toNat < 0x80) (x : Bytes) :
    parseStrAux 0 (escByte b ++ x) = (parseStrAux 0 x).map (fun p => (b :: p.1, p.2)) := by
  have hf := escByte_form b
  generalize escByte b = t at hf
  cases hf with
  | short hm =>
    obtain ⟨he, hc⟩ := shortTable_unescape _ hm
    exact parseStrAux_short he hc x
  | u00 _ =>
    have hh : hex4 0x30 0x30 (hexDigit (b.toNat / 16)) (hexDigit (b.toNat % 16)) = some b.toNat := by
      unfold hex4
      rw [hexVal_hexDigit _ (by omega), hexVal_hexDigit _ (by omega), show hexVal 0x30 = some 0 by decide]
      simp only [Option.some.injEq]; omega
    have he : encodeRune b.toNat = [b] := by rw [encodeRune_ascii _ hb, UInt8.ofNat_toNat]
    simp only [List.cons_append, List.nil_append]
    rw [parseStrAux_u hh (by omega), he]; rfl
  | bad => exact absurd hb (by decide)
  | plain h0 h1 h2 => exact parseStrAux_ascii h0 hb h1 h2 x

theorem toValidAux_pre (pre rest : Bytes) : toValidAux pre.length (pre ++ rest) = pre ++ toValidAux 0 rest := by
  induction pre with
  | nil => rfl
  | cons b t ih => simp [toValidAux, ih]

theorem copy_rune (b : UInt8) (pre rest : Bytes) (c : Nat) (hd : decodeRune (b :: (pre ++ rest)) = (c, pre.length + 1))
    (hc : ¬ (c = runeError ∧ pre.length = 0)) :
    coerceAux 0 (b :: (pre ++ rest)) = b :: (pre ++ coerceAux 0 rest) ∧
    toValidAux 0 (b :: (pre ++ rest)) = b :: (pre ++ toValidAux 0 rest) := by
  refine ⟨coerceAux_rune b pre rest c hd hc, ?_⟩
  have hne : (c == runeError && pre.length + 1 == 1) = false := by
    simp only [Bool.and_eq_false_iff, beq_eq_false_iff_ne]; omega
  rw [toValidAux, hd]
  simp only [hne, Nat.add_sub_cancel, toValidAux_pre]
  rfl

theorem copy_ascii (b : UInt8) (rest : Bytes) (hb : b.toNat < 0x80) :
    coerceAux 0 (b :: rest) = b :: coerceAux 0 rest ∧ toValidAux 0 (b :: rest) = b :: toValidAux 0 rest :=
  copy_rune b [] rest _ (decodeRune_ascii b rest hb) (fun h => absurd (h.1 ▸ hb) (by decide))

theorem coerce_bad (b : UInt8) (rest : Bytes) (hd : decodeRune (b :: rest) = (runeError, 1)) :
    coerceAux 0 (b :: rest) = 0xFF :: coerceAux 0 rest ∧
    toValidAux 0 (b :: rest) = 0xEF :: 0xBF :: 0xBD :: toValidAux 0 rest := by
  constructor
  · rw [coerceAux]; simp [hd, badByte]
  · rw [toValidAux]; simp [hd]

theorem parseStrAux_valid (b : UInt8) (pre x : Bytes) (hb : 0x80 ≤ b.toNat)
    (hw : (decodeRune (b :: (pre ++ x))).2 = pre.length + 1) (hp : pre ≠ []) :
    parseStrAux 0 (b :: (pre ++ x)) = (parseStrAux 0 x).map (fun p => (b :: (pre ++ p.1), p.2)) := by
  have hl : pre.length ≠ 0 := by simpa using hp
  rw [parseStrAux.eq_def]
  simp only [hw]
  rw [if_neg (by omega), if_neg (by omega), if_neg (by omega), if_neg (by omega), if_neg (by omega)]
  simp only [Nat.add_sub_cancel, parseStrAux_copy, Option.map_map]
  rfl

theorem parseStrAux_sep (l : UInt8) (hl : l = 0xA8 ∨ l = 0xA9) (y r v : Bytes)
    (ih : parseStrAux 0 (quoteBody y ++ 0x22 :: r) = some (v, r)) :
    parseStrAux 0 (quoteBody (0xE2 :: 0x80 :: l :: y) ++ 0x22 :: r) = some (0xE2 :: 0x80 :: l :: v, r) := by
  rw [quoteBody_sep l hl, u202x]
  simp only [List.cons_append, List.nil_append]
  rcases hl with rfl | rfl
  · rw [parseStrAux_u (code := 0x2028) (by decide) (by decide), ih]; rfl
  · rw [parseStrAux_u (code := 0x2029) (by decide) (by decide), ih]; rfl

/-- KEY LEMMA.  The body the encoder writes for `s`, followed by the closing quote, is read back as `toValid s`, and the
    reader stops exactly after that quote: the escaped text contains no raw `"`, `\` or control byte and is valid UTF-8.
    Rune by rune, as utf8.DecodeRune reads `s`. -/
theorem parseStr_body (s r : Bytes) :
    parseStrAux 0 (quoteBody (coerceAux 0 s) ++ 0x22 :: r) = some (toValidAux 0 s, r) := by
  induction s using Utf8.decode_induction with
  | nil => simp [coerceAux, toValidAux, quoteBody, parseStrAux_quote]
  | bad b t _ hd ih =>
    -- a rejected byte: the marker, its escape, U+FFFD
    obtain ⟨e1, e2⟩ := coerce_bad b t hd
    rw [e1, e2, quoteBody_cons (not_isSep (by decide) _), show escByte 0xFF = [0x5C, 0x75, 0x66, 0x66, 0x66, 0x64] by decide]
    simp only [List.cons_append, List.nil_append]
    rw [parseStrAux_u (code := 0xFFFD) (by decide) (by decide), ih]; rfl
  | rune c t hs ih =>
    by_cases hc : c < 0x80
    · -- ASCII: one byte, escaped or not, read back as itself
      have hb : (UInt8.ofNat c).toNat < 0x80 := by rw [toNat_ofNat_lt (by omega)]; exact hc
      obtain ⟨e1, e2⟩ := copy_ascii _ t hb
      rw [encodeRune_ascii c hc, List.singleton_append, e1, e2, quoteBody_cons (not_isSep (by omega) _),
        List.append_assoc, parseStrAux_escByte hb, ih]
      rfl
    · -- a lead byte and continuation bytes: copied by encoder, sanitisers and reader, unless the encoder sees U+2028 / U+2029
      obtain ⟨b, pre, he, hp, hl, hl', hcont, hrt⟩ := encodeRune_multi hs (by omega)
      obtain ⟨e1, e2⟩ := copy_rune b pre t c (hrt t) (fun h => hp (List.length_eq_zero_iff.mp h.2))
      rw [he, List.cons_append, e1, e2]
      by_cases hsep : IsSep (b :: (pre ++ coerceAux 0 t))
      · obtain ⟨l, u, e, hsl⟩ := hsep
        -- utf8.DecodeRune reads these three bytes at width 3 (by evaluation), so `pre` is the other two
        have h3 : pre.length + 1 = 3 := by
          have h := congrArg Prod.snd (hrt (coerceAux 0 t))
          rw [e] at h
          rcases hsl with rfl | rfl
          · exact h.symm
          · exact h.symm
        match pre, h3 with
        | [p1, p2], _ =>
          obtain ⟨rfl, et1⟩ := List.cons.inj e
          obtain ⟨rfl, et2⟩ := List.cons.inj (show p1 :: p2 :: coerceAux 0 t = 0x80 :: l :: u from et1)
          obtain ⟨rfl, rfl⟩ := List.cons.inj et2
          exact parseStrAux_sep _ hsl _ r _ ih
      · have hb : 0x80 ≤ b.toNat := by omega
        rw [quoteBody_cons hsep, escByte_hi hb (by omega), quoteBody_conts hcont,
          List.singleton_append, List.cons_append, List.append_assoc, parseStrAux_valid b pre _ hb (by rw [hrt]) hp, ih]
        rfl

def Plain (a : Bytes) : Prop := ∀ c ∈ a, 0x20 ≤ c.toNat ∧ c.toNat < 0x80 ∧ c.toNat ≠ 0x22 ∧ c.toNat ≠ 0x5C

theorem parseStrAux_plain {a : Bytes} (h : Plain a) (r : Bytes) : parseStrAux 0 (a ++ 0x22 :: r) = some (a, r) := by
  induction a with
  | nil => exact parseStrAux_quote r
  | cons c t ih =>
    obtain ⟨h1, h2, h3, h4⟩ := h c (by simp)
    rw [List.cons_append, parseStrAux_ascii h1 h2 h3 h4, ih (fun x hx => h x (by simp [hx]))]
    rfl

theorem spanNum_tok {t : Bytes} (ht : ∀ c ∈ t, numChar c = true) {rest : Bytes} (hr : NumEnd rest) :
    spanNum (t ++ rest) = (t, rest) := by
  induction t with
  | nil =>
    match rest, hr with
    | [], _ => rfl
    | c :: u, hr => simp [spanNum, show numChar c = false from Bool.eq_false_iff.mpr hr]
  | cons c u ih =>
    have hc : numChar c = true := ht c (by simp)
    have hu : ∀ x ∈ u, numChar x = true := fun x hx => ht x (by simp [hx])
    simp [spanNum, hc, ih hu]

theorem isNumTok_all {t : Bytes} (h : isNumTok t = true) : ∀ c ∈ t, numChar c = true := by
  unfold isNumTok at h
  simp only [Bool.and_eq_true, List.all_eq_true] at h
  exact h.1

theorem parseNum_tok {t : Bytes} (h : isNumTok t = true) {rest : Bytes} (hr : NumEnd rest) :
    parseNum (t ++ rest) = some (.num t, rest) := by
  simp [parseNum, spanNum_tok (isNumTok_all h) hr, h]

theorem numChar_not_ws {c : UInt8} (h : numChar c = true) : isWs c = false := by
  unfold numChar at h
  unfold isWs
  simp only [Bool.or_eq_true, Bool.and_eq_true, decide_eq_true_eq, beq_iff_eq] at h
  simp only [Bool.or_eq_false_iff, beq_eq_false_iff_ne]
  omega

theorem numEnd_ws {w : Bytes} (hw : AllWs w) {c : UInt8} (hc : numChar c = false) (t : Bytes) : NumEnd (w ++ c :: t) := by
  match w, hw with
  | [], _ => exact Bool.eq_false_iff.mp hc
  | x :: u, hw => exact fun h => Bool.false_ne_true ((numChar_not_ws h).symm.trans (hw x (by simp)))

def Parses (pv : Bytes → Option (JVal × Bytes)) (e : Bytes) (v : JVal) : Prop :=
  ∀ (w rest : Bytes), AllWs w → NumEnd rest → pv (w ++ (e ++ rest)) = some (v, rest)

theorem parseV_str (d : Nat) (s : Bytes) : Parses (parseV (d + 1)) (jsonStrModel s) (.str (toValid s)) := by
  intro w rest hw _
  have e : jsonStrModel s ++ rest = 0x22 :: (quoteBody (coerce s) ++ 0x22 :: rest) := by simp [jsonStrModel, goString, quote]
  rw [parseV, skipWs_append hw, e, skipWs_cons (by decide)]
  simp only []
  rw [if_pos (by decide), coerce, parseStr_body]
  rfl

theorem isNumTok_head {t : Bytes} (h : isNumTok t = true) : ∃ c u, t = c :: u ∧ numChar c = true := by
  match t, h with
  | [], h => exact absurd h (by decide)
  | c :: u, h => exact ⟨c, u, rfl, isNumTok_all h c (by simp)⟩

theorem parseV_num (d : Nat) {t : Bytes} (h : isNumTok t = true) : Parses (parseV (d + 1)) t (.num t) := by
  intro w rest hw hr
  obtain ⟨c, u, rfl, hc⟩ := isNumTok_head h
  have hws := numChar_not_ws hc
  have hn : c.toNat ≠ 0x22 ∧ c.toNat ≠ 0x5B ∧ c.toNat ≠ 0x7B ∧ c.toNat ≠ 0x74 ∧ c.toNat ≠ 0x66 ∧ c.toNat ≠ 0x6E := by
    unfold numChar at hc
    simp only [Bool.or_eq_true, Bool.and_eq_true, decide_eq_true_eq, beq_iff_eq] at hc
    omega
  rw [parseV, skipWs_append hw, List.cons_append, skipWs_cons hws]
  simp only []
  rw [if_neg hn.1, if_neg hn.2.1, if_neg hn.2.2.1, if_neg hn.2.2.2.1, if_neg hn.2.2.2.2.1, if_neg hn.2.2.2.2.2]
  exact parseNum_tok h hr

theorem parseV_lit (d : Nat) :
    Parses (parseV (d + 1)) (bs "true") (.bool true) ∧ Parses (parseV (d + 1)) (bs "false") (.bool false) ∧
    Parses (parseV (d + 1)) (bs "null") .null := by
  have e1 : bs "true" = [0x74, 0x72, 0x75, 0x65] := by decide
  have e2 : bs "false" = [0x66, 0x61, 0x6C, 0x73, 0x65] := by decide
  have e3 : bs "null" = [0x6E, 0x75, 0x6C, 0x6C] := by decide
  refine ⟨?_, ?_, ?_⟩
  · intro w rest hw _
    rw [parseV, skipWs_append hw, e1, List.cons_append, skipWs_cons (by decide)]
    simp [dropPrefix]
  · intro w rest hw _
    rw [parseV, skipWs_append hw, e2, List.cons_append, skipWs_cons (by decide)]
    simp [dropPrefix]
  · intro w rest hw _
    rw [parseV, skipWs_append hw, e3, List.cons_append, skipWs_cons (by decide)]
    simp [dropPrefix]

theorem allWs_nil : AllWs [] := by intro c hc; simp at hc

theorem allWs_sp : AllWs [0x20] := by intro c hc; simp at hc; subst hc; decide

/-- a round of a `,`-separated, `close`-terminated loop: the item is read as `o`, the next byte that is not white space
    decides -/
def Round {β : Type} (loop : Nat → Bytes → Option (List β × Bytes)) (close : UInt8) (item : Bytes) (o : β) : Prop :=
  ∀ (w0 w : Bytes), AllWs w0 → AllWs w → ∀ (c : UInt8), numChar c = false → isWs c = false → ∀ (n : Nat) (rest : Bytes),
    loop (n + 1) (w0 ++ (item ++ (w ++ c :: rest))) =
      if c.toNat = 0x2C then (loop n rest).map (fun p => (o :: p.1, p.2))
      else if c.toNat = close.toNat then some ([o], rest) else none

theorem joinBytes_cons2 (sep x y : Bytes) (l : List Bytes) :
    joinBytes sep (x :: y :: l) = x ++ (sep ++ joinBytes sep (y :: l)) := by
  simp [joinBytes]

theorem loop_join {α β : Type} (loop : Nat → Bytes → Option (List β × Bytes)) (close : UInt8)
    (hcl : close.toNat ≠ 0x2C ∧ numChar close = false ∧ isWs close = false) (item : α → Bytes) (out : α → β)
    {w1 w2 : Bytes} (hw1 : AllWs w1) (hw2 : AllWs w2) (rest : Bytes) :
    ∀ (xs : List α), xs ≠ [] → (∀ x ∈ xs, Round loop close (item x) (out x)) → ∀ (w0 : Bytes), AllWs w0 → ∀ n : Nat,
      (w0 ++ (joinBytes (0x2C :: w1) (xs.map item) ++ (w2 ++ close :: rest))).length ≤ n →
      loop n (w0 ++ (joinBytes (0x2C :: w1) (xs.map item) ++ (w2 ++ close :: rest))) = some (xs.map out, rest) := by
  intro xs
  induction xs with
  | nil => intro h; exact absurd rfl h
  | cons x t ih =>
    intro _ hp w0 hw0 n hn
    have hx := hp x (by simp)
    obtain ⟨m, rfl⟩ : ∃ m, n = m + 1 := by
      cases n with
      | zero => simp at hn
      | succ m => exact ⟨m, rfl⟩
    match t, ih with
    | [], _ =>
      simp only [List.map_cons, List.map_nil, joinBytes]
      rw [hx w0 w2 hw0 hw2 close hcl.2.1 hcl.2.2, if_neg hcl.1, if_pos rfl]
    | y :: u, ih =>
      simp only [List.map_cons, joinBytes_cons2, List.append_assoc, List.cons_append] at hn ⊢
      have st := hx w0 [] hw0 allWs_nil 0x2C (by decide) (by decide) m
        (w1 ++ (joinBytes (0x2C :: w1) (item y :: List.map item u) ++ (w2 ++ close :: rest)))
      rw [List.nil_append] at st
      -- the round consumed the comma, so the budget left, `m`, covers the rest
      have := ih (by simp) (fun z hz => hp z (by simp [hz])) w1 hw1 m (by
          simp only [List.map_cons, List.length_append, List.length_cons] at hn ⊢; omega)
      rw [List.map_cons] at this
      rw [st, if_pos (by decide), this]
      rfl

theorem parseElems_step {pv : Bytes → Option (JVal × Bytes)} {e : Bytes} {v : JVal} (hx : Parses pv e v) :
    Round (parseElemsWith pv) 0x5D e v := by
  intro w0 w hw0 hw c hn hc n rest
  rw [parseElemsWith, hx w0 _ hw0 (numEnd_ws hw hn rest)]
  simp only []
  rw [skipWs_append hw, skipWs_cons hc]
  rfl

/-- one member as the encoder lays it out: `"name": value` -/
def memBytes (name val : Bytes) : Bytes := [0x22] ++ name ++ [0x22, 0x3A, 0x20] ++ val

theorem parseMembers_step {pv : Bytes → Option (JVal × Bytes)} {name e : Bytes} {v : JVal} (hnm : Plain name)
    (hx : Parses pv e v) : Round (parseMembersWith pv) 0x7D (memBytes name e) (name, v) := by
  intro w0 w hw0 hw c hn hc n rest
  have h20 := hx [0x20] (w ++ c :: rest) allWs_sp (numEnd_ws hw hn rest)
  simp only [List.cons_append, List.nil_append] at h20
  rw [parseMembersWith, skipWs_append hw0]
  simp only [memBytes, List.cons_append, List.nil_append, List.append_assoc]
  rw [skipWs_cons (by decide)]
  simp only []
  rw [if_pos (by decide), parseStrAux_plain hnm]
  simp only []
  rw [skipWs_cons (by decide)]
  simp only []
  rw [if_pos (by decide), h20]
  simp only []
  rw [skipWs_append hw, skipWs_cons hc]
  rfl

theorem nl_ws (hi : indentOK = true) (d : Nat) : AllWs (nl d) := by
  unfold indentOK at hi
  simp only [Bool.and_eq_true, List.all_eq_true] at hi
  intro c hc
  simp only [nl, List.mem_cons, List.mem_append, List.mem_flatten, List.mem_replicate] at hc
  rcases hc with (rfl | hc) | ⟨l, ⟨_, rfl⟩, hc⟩
  · decide
  · exact hi.1 c hc
  · exact hi.2 c hc

def Head (cl : UInt8) (e : Bytes) : Prop := ∃ c t, e = c :: t ∧ isWs c = false ∧ c.toNat ≠ cl.toNat

theorem joinBytes_head {sep x : Bytes} {c : UInt8} {t : Bytes} (hx : x = c :: t) (l : List Bytes) :
    ∃ u, joinBytes sep (x :: l) = c :: u := by
  subst hx
  match l with
  | [] => exact ⟨t, rfl⟩
  | y :: l' => exact ⟨t ++ sep ++ joinBytes sep (y :: l'), by simp [joinBytes]⟩

/-- what `pv` does at an opening byte: an empty sequence, or the loop on the rest -/
def Opens {β : Type} (pv : Bytes → Option (JVal × Bytes)) (loop : Nat → Bytes → Option (List β × Bytes)) (op cl : UInt8)
    (mk : List β → JVal) : Prop :=
  ∀ (w r : Bytes), AllWs w → pv (w ++ op :: r) =
    match skipWs r with
    | [] => none
    | c' :: r' => if c'.toNat = cl.toNat then some (mk [], r') else (loop (r'.length + 1) (c' :: r')).map (fun p => (mk p.1, p.2))

theorem parseV_opens_arr (d : Nat) : Opens (parseV (d + 1)) (parseElemsWith (parseV d)) 0x5B 0x5D .arr := by
  intro w r hw
  rw [parseV, skipWs_append hw, skipWs_cons (by decide)]
  simp only []
  rw [if_neg (by decide), if_pos (by decide)]
  rfl

theorem parseV_opens_obj (d : Nat) : Opens (parseV (d + 1)) (parseMembersWith (parseV d)) 0x7B 0x7D .obj := by
  intro w r hw
  rw [parseV, skipWs_append hw, skipWs_cons (by decide)]
  simp only []
  rw [if_neg (by decide), if_neg (by decide), if_pos (by decide)]
  rfl

theorem parses_seq {α β : Type} {pv : Bytes → Option (JVal × Bytes)} {loop : Nat → Bytes → Option (List β × Bytes)}
    {op cl : UInt8} {mk : List β → JVal} (ho : Opens pv loop op cl mk)
    (hcl : cl.toNat ≠ 0x2C ∧ numChar cl = false ∧ isWs cl = false) (hi : indentOK = true) (depth : Nat)
    (item : α → Bytes) (out : α → β) (xs : List α) (hr : ∀ x ∈ xs, Round loop cl (item x) (out x))
    (hh : ∀ x ∈ xs, Head cl (item x)) : Parses pv (encSeq op cl depth (xs.map item)) (mk (xs.map out)) := by
  intro w rest hw _
  match xs, hr, hh with
  | [], _, _ =>
    simp only [List.map_nil, encSeq, List.isEmpty_nil, if_true]
    rw [List.cons_append, ho w _ hw, List.cons_append, List.nil_append, skipWs_cons hcl.2.2]
    simp
  | x :: t, hr, hh =>
    obtain ⟨c, t', hx, hws, hne⟩ := hh x (by simp)
    obtain ⟨u, hu⟩ := joinBytes_head (sep := 0x2C :: nl (depth + 1)) hx (t.map item)
    have key := loop_join loop cl hcl item out (nl_ws hi (depth + 1)) (nl_ws hi depth) rest (x :: t) (by simp) hr []
      allWs_nil ((u ++ (nl depth ++ cl :: rest)).length + 1) (by
        simp only [List.map_cons, List.nil_append, hu]; simp)
    simp only [List.map_cons, List.nil_append, hu, List.cons_append] at key
    simp only [List.map_cons, encSeq, List.isEmpty_cons, Bool.false_eq_true, if_false, hu, List.cons_append, List.nil_append,
      List.append_assoc]
    rw [ho w _ hw, skipWs_append (nl_ws hi (depth + 1)), skipWs_cons hws]
    simp only []
    rw [if_neg hne, key]
    simp

theorem parseV_arr {α : Type} (hi : indentOK = true) (d depth : Nat) (enc : α → Bytes) (val : α → JVal) (xs : List α)
    (hp : ∀ x ∈ xs, Parses (parseV d) (enc x) (val x)) (hh : ∀ x ∈ xs, Head 0x5D (enc x)) :
    Parses (parseV (d + 1)) (encSeq 0x5B 0x5D depth (xs.map enc)) (.arr (xs.map val)) :=
  parses_seq (parseV_opens_arr d) (by decide) hi depth enc val xs (fun x hx => parseElems_step (hp x hx)) hh

theorem parseV_obj {α : Type} (hi : indentOK = true) (d depth : Nat) (name encv : α → Bytes) (val : α → JVal) (xs : List α)
    (hn : ∀ x ∈ xs, Plain (name x)) (hp : ∀ x ∈ xs, Parses (parseV d) (encv x) (val x)) :
    Parses (parseV (d + 1)) (encSeq 0x7B 0x7D depth (xs.map (fun x => memBytes (name x) (encv x))))
      (.obj (xs.map (fun x => (name x, val x)))) :=
  parses_seq (parseV_opens_obj d) (by decide) hi depth (fun x => memBytes (name x) (encv x)) (fun x => (name x, val x)) xs
    (fun x hx => parseMembers_step (hn x hx) (hp x hx)) (fun x _ => ⟨0x22, _, rfl, by decide, by decide⟩)

/-- the automaton on one digit, from the three states a run of digits passes through -/
theorem numStep_digit : ∀ d : Fin 10,
    numStep .start (UInt8.ofNat (48 + d.val)) = (if d.val = 0 then .zero else .int) ∧
    numStep .minus (UInt8.ofNat (48 + d.val)) = (if d.val = 0 then .zero else .int) ∧
    numStep .int (UInt8.ofNat (48 + d.val)) = .int := by decide

theorem numStep_digit_run (s : NumSt) (hs : s = .start ∨ s = .minus) (n : Nat) :
    (natDigits n).foldl numStep s = if n = 0 then .zero else .int := by
  induction n using natDigits.induct with
  | case1 n h =>
    rw [natDigits_lt h]
    rcases hs with rfl | rfl
    · exact (numStep_digit ⟨n, h⟩).1
    · exact (numStep_digit ⟨n, h⟩).2.1
  | case2 n h ih =>
    rw [natDigits_ge h, List.foldl_append, ih, if_neg (by omega), if_neg (by omega)]
    exact (numStep_digit ⟨n % 10, by omega⟩).2.2

theorem isNumTok_intDec (i : Int) : isNumTok (intDec i) = true := by
  -- the text of the cache key's integers (`intDec_eq`), which lies in the alphabet; the automaton reads `-`, then the digits
  rw [intDec_eq, isNumTok, Bool.and_eq_true, List.all_eq_true]
  refine ⟨intText_numChar i, ?_⟩
  unfold intText
  split
  · rename_i hneg
    rw [List.foldl_cons, show numStep .start 0x2D = .minus by decide, numStep_digit_run _ (.inr rfl),
      if_neg (show i.natAbs ≠ 0 by omega)]
    rfl
  · rw [numStep_digit_run _ (.inl rfl)]
    split <;> rfl

/-! ### a form of the string encoder that evaluates

  `KeyJson.quoteBody` is compiled by well-founded recursion (its three-byte look-ahead), so `decide` cannot run it.
  `quoteBodyF` is the same function by recursion on a byte budget; `jsonStrF` the encoder built on it. -/

def quoteBodyF : Nat → Bytes → Bytes
  | 0, _ => []
  | _ + 1, [] => []
  | f + 1, b :: rest =>
    match rest with
    | b1 :: b2 :: rest' =>
      if b.toNat = 0xE2 ∧ b1.toNat = 0x80 ∧ b2.toNat = 0xA8 then u202x 0x38 ++ quoteBodyF f rest'
      else if b.toNat = 0xE2 ∧ b1.toNat = 0x80 ∧ b2.toNat = 0xA9 then u202x 0x39 ++ quoteBodyF f rest'
      else escByte b ++ quoteBodyF f rest
    | _ => escByte b ++ quoteBodyF f rest

theorem quoteBodyF_eq (f : Nat) (a : Bytes) : a.length ≤ f → quoteBodyF f a = quoteBody a := by
  fun_induction quoteBodyF f a with
  | case1 a => intro h; rw [List.eq_nil_of_length_eq_zero (Nat.le_zero.mp h), quoteBody]
  | case2 => intro _; rw [quoteBody]
  | case3 f b b1 b2 t h ih => intro hf; rw [quoteBody, if_pos h, ih (by simp at hf; omega)]
  | case4 f b b1 b2 t h1 h2 ih => intro hf; rw [quoteBody, if_neg h1, if_pos h2, ih (by simp at hf; omega)]
  | case5 f b b1 b2 t h1 h2 ih => intro hf; rw [quoteBody, if_neg h1, if_neg h2, ih (by simpa using hf)]
  | case6 f b rest hne ih =>
    -- fewer than two bytes follow `b`
    intro hf
    rw [ih (by simpa using hf)]
    match rest, hne with
    | [], _ => simp [quoteBody]
    | [_], _ => simp [quoteBody]
    | b1 :: b2 :: t, hne => exact absurd rfl (hne b1 b2 t)

def jsonStrF (s : Bytes) : Bytes := 0x22 :: (quoteBodyF (coerce s).length (coerce s) ++ [0x22])

theorem jsonStrF_eq : jsonStrF = jsonStrModel := by
  funext s
  simp [jsonStrF, jsonStrModel, goString, quote, quoteBodyF_eq _ _ (Nat.le_refl _)]

variable {S : Type} [ScoreOps S]

theorem encSeq_head {op : UInt8} (cl' : UInt8) (h1 : isWs op = false) (h2 : op.toNat ≠ cl'.toNat) (cl : UInt8) (depth : Nat)
    (elems : List Bytes) : Head cl' (encSeq op cl depth elems) := by
  unfold encSeq; split
  · exact ⟨op, _, rfl, h1, h2⟩
  · exact ⟨op, nl (depth + 1) ++ joinBytes (0x2c :: nl (depth + 1)) elems ++ nl depth ++ [cl], by simp, h1, h2⟩

omit [ScoreOps S] in
theorem parseV_val (hi : indentOK = true) {F : Fmt S} (hstr : F.jsonStr = jsonStrModel) (hnum : NumOK F)
    (d depth : Nat) (v : Val S) : Parses (parseV (d + 2)) (Cli.encVal F depth v) (jvalOf F v) := by
  cases v with
  | bytes b => simp only [Cli.encVal, jvalOf, hstr]; exact parseV_str (d + 1) b
  | int n => exact parseV_num (d + 1) (isNumTok_intDec n)
  | score s => exact parseV_num (d + 1) (hnum s)
  | strs l =>
    simp only [Cli.encVal, jvalOf, hstr]
    exact parseV_arr hi (d + 1) depth jsonStrModel (fun b => .str (toValid b)) l (fun x _ => parseV_str d x)
      (fun _ _ => ⟨0x22, _, rfl, by decide, by decide⟩)
  | bool b =>
    cases b
    · exact (parseV_lit (d + 1)).2.1
    · exact (parseV_lit (d + 1)).1
  | sliceLen n => exact (parseV_lit (d + 1)).2.2
  | bad => exact (parseV_lit (d + 1)).2.2

theorem plain_of_nameOK {n : String} (h : nameOK n = true) : Plain (bs n) := by
  unfold nameOK at h
  simp only [List.all_eq_true, Bool.and_eq_true, decide_eq_true_eq, bne_iff_ne] at h
  intro c hc
  have := h c hc
  omega

omit [ScoreOps S] in
theorem parseV_encObj (hi : indentOK = true) {F : Fmt S} (hstr : F.jsonStr = jsonStrModel) (hnum : NumOK F)
    (d depth : Nat) (fs : List (String × Val S)) (hn : ∀ kv ∈ fs, nameOK kv.1 = true) :
    Parses (parseV (d + 3)) (encObj F depth fs) (jobjOf F fs) := by
  unfold encObj jobjOf
  exact parseV_obj hi (d + 2) depth (fun kv : String × Val S => bs kv.1) (fun kv => Cli.encVal F (depth + 1) kv.2)
    (fun kv => jvalOf F kv.2) fs (fun kv h => plain_of_nameOK (hn kv h)) (fun kv _ => parseV_val hi hstr hnum d (depth + 1) kv.2)

theorem encSeq_length (op cl : UInt8) (depth : Nat) (elems : List Bytes) : 2 ≤ (encSeq op cl depth elems).length := by
  unfold encSeq; split
  · simp
  · simp; omega

/-- the names of the regenerated member table are written and read as they are -/
def NamesOK : Prop := ∀ f ∈ Gen.Cli.jsonFields, nameOK f.jsonName = true

/-- MAIN THEOREM (model level).  Whatever the items, the block `encodeItems` lays out is a JSON text: the recogniser reads
    one array off it, with one object per item whose members are the item's fields by name and in order, every value read
    back (`jvalOf`), and only the final newline is left. -/
theorem parseValue_encodeItems (hi : indentOK = true) (hn : NamesOK) {F : Fmt S} (hstr : F.jsonStr = jsonStrModel)
    (hnum : NumOK F) (items : List (Item S)) :
    parseValue (encodeItems F items) = some (expectedJson F items, [0x0A]) := by
  have hl := encSeq_length 0x5b 0x5d 0 (items.map (fun it => encObj F 1 (objFields Gen.Cli.jsonFields it)))
  obtain ⟨k, hk⟩ : ∃ k, (encodeItems F items).length + 1 = k + 4 := ⟨(encodeItems F items).length - 3, by
    simp only [encodeItems, List.length_append, List.length_singleton]; omega⟩
  have key := parseV_arr hi (k + 3) 0 (fun it : Item S => encObj F 1 (objFields Gen.Cli.jsonFields it))
    (fun it => jobjOf F (objFields Gen.Cli.jsonFields it)) items
    (fun it _ => parseV_encObj hi hstr hnum k 1 _ (fun kv hkv => by
      obtain ⟨f, hf, e⟩ := objFields_names Gen.Cli.jsonFields it kv hkv
      rw [e]; exact hn f hf))
    (fun it _ => encSeq_head 0x5D (by decide) (by decide) _ _ _)
    [] [0x0A] allWs_nil (by decide : ¬ numChar 0x0A = true)
  rw [parseValue, hk]
  simpa [encodeItems, expectedJson] using key

theorem parseText_encodeItems (hi : indentOK = true) (hn : NamesOK) {F : Fmt S} (hstr : F.jsonStr = jsonStrModel)
    (hnum : NumOK F) (items : List (Item S)) :
    parseText (encodeItems F items) = some (expectedJson F items) := by
  rw [parseText, parseValue_encodeItems hi hn hstr hnum]
  rfl

end Wtf.JsonText
