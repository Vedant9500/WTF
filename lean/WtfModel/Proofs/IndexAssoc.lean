import WtfModel.Model.Index
/-
  The association lists of the index model (`look`, `upd`, Model/Index.lean): what a lookup sees after an update,
  how the key list grows, and a fold of updates over a list with distinct keys (each key is then touched once).
-/
namespace Wtf.Index
open Text

variable {α : Type}

theorem look_mem {m : List (Token × α)} {k : Token} {v : α} (h : look m k = some v) : (k, v) ∈ m := by
  induction m with
  | nil => cases h
  | cons a rest ih =>
    obtain ⟨k', v'⟩ := a
    rw [look] at h
    split at h
    · rename_i hk
      rw [beq_iff_eq.mp hk, Option.some.inj h]
      exact List.mem_cons_self
    · exact List.mem_cons_of_mem _ (ih h)

theorem look_upd (m : List (Token × α)) (k k' : Token) (d : α) (f : α → α) :
    look (upd m k d f) k' = if k' = k then some (f ((look m k).getD d)) else look m k' := by
  by_cases hk : k' = k
  · subst hk
    rw [if_pos rfl]
    induction m with
    | nil => simp [upd, look]
    | cons a rest ih =>
      obtain ⟨k1, v⟩ := a
      by_cases h : k1 = k'
      · subst h; simp [upd, look]
      · simp [upd, look, h, ih]
  · have hk' : ¬ k = k' := fun e => hk e.symm
    rw [if_neg hk]
    induction m with
    | nil => simp [upd, look, hk']
    | cons a rest ih =>
      obtain ⟨k1, v⟩ := a
      by_cases h1 : k1 = k
      · subst h1; simp [upd, look, hk']
      · by_cases h2 : k1 = k'
        · subst h2; simp [upd, look, h1]
        · simp [upd, look, h1, h2, ih]

theorem keys_upd (m : List (Token × α)) (k : Token) (d : α) (f : α → α) :
    (upd m k d f).map (·.1) = if k ∈ m.map (·.1) then m.map (·.1) else m.map (·.1) ++ [k] := by
  induction m with
  | nil => simp [upd]
  | cons a rest ih =>
    obtain ⟨k', v⟩ := a
    by_cases h : k' = k
    · subst h; simp [upd]
    · have h' : ¬ k = k' := fun e => h e.symm
      simp only [upd, beq_iff_eq, h, ↓reduceIte, List.map_cons, ih, List.mem_cons, h', false_or]
      split <;> simp

theorem nodup_keys_upd {m : List (Token × α)} (h : (m.map (·.1)).Nodup) (k : Token) (d : α) (f : α → α) :
    ((upd m k d f).map (·.1)).Nodup := by
  rw [keys_upd]
  split
  · exact h
  · rename_i hk
    exact List.nodup_append.mpr ⟨h, List.pairwise_singleton _ k, fun a ha b hb => List.mem_singleton.mp hb ▸ fun e => hk (e ▸ ha)⟩

theorem look_eq_none_iff (m : List (Token × α)) (k : Token) : look m k = none ↔ k ∉ m.map (·.1) := by
  induction m with
  | nil => simp [look]
  | cons a rest ih =>
    obtain ⟨k', v⟩ := a
    by_cases h : k' = k
    · subst h; simp [look]
    · have h' : ¬ k = k' := fun e => h e.symm
      simp [look, h, h', ih]

theorem look_foldl_upd {β : Type} (tf : List (Token × β)) (hnd : (tf.map (·.1)).Nodup)
    (d : α) (g : β → α → α) (m0 : List (Token × α)) (t : Token) :
    look (tf.foldl (fun m x => upd m x.1 d (g x.2)) m0) t =
      match look tf t with
      | none => look m0 t
      | some v => some (g v ((look m0 t).getD d)) := by
  induction tf generalizing m0 with
  | nil => simp [look]
  | cons a rest ih =>
    obtain ⟨k, v⟩ := a
    simp only [List.map_cons, List.nodup_cons] at hnd
    simp only [List.foldl_cons]
    rw [ih hnd.2]
    by_cases h : k = t
    · subst h
      have hn : look rest k = none := (look_eq_none_iff rest k).mpr hnd.1
      simp [look, hn, look_upd]
    · have h' : ¬ t = k := fun e => h e.symm
      simp only [look, beq_iff_eq, h, ↓reduceIte, look_upd, h']

end Wtf.Index
