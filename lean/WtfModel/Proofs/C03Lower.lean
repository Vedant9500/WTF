import WtfModel.Proofs.C03State
import WtfModel.Proofs.NormQ
/-
  C03: `tokenize (strings.ToLower s) = tokenize s` for every byte string none of whose code points is a non-ASCII one
  that Go lower-cases to ASCII (in Go's tables: exactly U+212A and U+0130) — stated for the splitting loop under `tokenize`
  and the lower-casing without its ASCII fast path (`runsAux_toLowerGen`; `C03.tokenize_toLower` in Props/C03.lean is its
  `tokenize ∘ toLower` reading, `tokenize_toLower_ascii` the all-ASCII case) — and from it: what the engine indexes is
  the tokenisation of the raw fields.  Every byte ≥ 0x80 separates tokens, so the encoding of a non-ASCII rune and
  the encoding of its non-ASCII lower case are each one separator block; induction over the UTF-8 decoder of
  Basic/Utf8.lean (`decode_induction`).
-/
namespace Wtf.Search
open Text Utf8 GoStr

theorem nonalnum_of_ge (b : UInt8) (h : 128 ≤ b.toNat) : isAlnumB b = false := by
  simp only [isAlnumB, isUpperB, isLowerB, isDigitB, UInt8.le_iff_toNat_le, UInt8.reduceToNat, Bool.or_eq_false_iff,
    Bool.and_eq_false_iff, decide_eq_false_iff_not]
  omega

theorem runsAux_cons_lowerB {s s' : Bytes} (h : ∀ cur, runsAux s cur = runsAux s' cur) (b : UInt8) (cur : Bytes) :
    runsAux (lowerB b :: s) cur = runsAux (b :: s') cur := by
  simp only [runsAux, isAlnumB_lowerB, lowerB_lowerB, h]

theorem runsAux_lowerAscii (s cur : Bytes) : runsAux (lowerAscii s) cur = runsAux s cur := by
  induction s generalizing cur with
  | nil => rfl
  | cons b rest ih => exact runsAux_cons_lowerB ih b cur

theorem tokenize_lowerAscii (s : Bytes) : tokenize (lowerAscii s) = tokenize s := by
  unfold tokenize runs; rw [runsAux_lowerAscii]

theorem runsAux_append_sep (x rest cur : Bytes) (sep : UInt8) (hs : isAlnumB sep = false) :
    runsAux (x ++ sep :: rest) cur = runsAux x cur ++ runsAux rest [] := by
  induction x generalizing cur with
  | nil =>
    simp only [List.nil_append, runsAux, hs, Bool.false_eq_true, ↓reduceIte]
    by_cases hc : cur.isEmpty <;> simp [hc]
  | cons b bs ih =>
    simp only [List.cons_append, runsAux]
    split
    · exact ih _
    · split
      · exact ih _
      · rw [ih]; rfl

theorem runsAux_sep_block {xs : Bytes} (rest cur : Bytes) (hne : xs ≠ [])
    (hall : ∀ b ∈ xs, isAlnumB b = false) : runsAux (xs ++ rest) cur = runsAux [] cur ++ runsAux rest [] := by
  induction xs generalizing cur with
  | nil => exact absurd rfl hne
  | cons x ys ih =>
    refine (runsAux_append_sep [] (ys ++ rest) cur x (hall x List.mem_cons_self)).trans ?_
    by_cases hy : ys = []
    · rw [hy]; rfl
    · rw [ih [] hy (fun b hb => hall b (List.mem_cons_of_mem _ hb))]; rfl

theorem runsAux_blocks {xs ys s s' : Bytes} (hx : xs ≠ [] ∧ ∀ b ∈ xs, 128 ≤ b.toNat) (hy : ys ≠ [] ∧ ∀ b ∈ ys, 128 ≤ b.toNat)
    (h : runsAux s [] = runsAux s' []) (cur : Bytes) : runsAux (xs ++ s) cur = runsAux (ys ++ s') cur := by
  rw [runsAux_sep_block s cur hx.1 fun b hb => nonalnum_of_ge b (hx.2 b hb),
    runsAux_sep_block s' cur hy.1 fun b hb => nonalnum_of_ge b (hy.2 b hb), h]

theorem tokenize_toLower_ascii {ri : RuneInfo} {s : Bytes} (h : isAsciiStr s = true) :
    tokenize (toLower ri s) = tokenize s := by
  unfold toLower; rw [if_pos h]; exact tokenize_lowerAscii s

theorem take_append_drop_lt {α : Type} (l : List α) (w : Nat) : l = l.take w ++ l.drop w := (List.take_append_drop w l).symm

theorem runsAux_toLowerGen {ri : RuneInfo} {s : Bytes} (h : ∀ r ∈ runes s, 128 ≤ r → 128 ≤ ri.lower r) (cur : Bytes) :
    runsAux (toLowerGen ri s) cur = runsAux s cur := by
  induction s using decode_induction generalizing cur with
  | nil => rfl
  | rune c t hs ih =>
    have hr := runes_rune hs t
    rw [hr] at h
    have ih := ih fun r hr => h r (List.mem_cons_of_mem _ hr)
    rw [toLowerGen_cons ri hr]
    by_cases hc : c < 128
    · -- an ASCII byte is its own rune
      rw [enc_lower_ascii ri hc, encodeRune_ascii c hc]
      exact runsAux_cons_lowerB ih _ cur
    · have hc := Nat.le_of_not_lt hc
      exact runsAux_blocks (encodeRune_nonascii _ (h c List.mem_cons_self hc)) (encodeRune_nonascii c hc) (ih []) cur
  | bad b t hb hd ih =>
    -- a rejected byte is not ASCII, and is read as U+FFFD
    have hr := runes_bad hd
    rw [hr] at h
    rw [toLowerGen_cons ri hr]
    exact runsAux_blocks (ys := [b]) (encodeRune_nonascii _ (h _ List.mem_cons_self (by decide)))
      ⟨List.cons_ne_nil _ _, by simpa using hb⟩ (ih (fun r hr => h r (List.mem_cons_of_mem _ hr)) []) cur

theorem tokenize_append_sp (x rest : Bytes) : tokenize (x ++ 0x20 :: rest) = tokenize x ++ tokenize rest := by
  unfold tokenize runs
  rw [runsAux_append_sep x rest [] 0x20 (by decide), List.filter_append]

theorem tokenize_joinSp (xs : List Bytes) : tokenize (joinSp xs) = (xs.map tokenize).flatten := by
  induction xs with
  | nil => rfl
  | cons x rest ih =>
    cases rest with
    | nil => simp [joinSp]
    | cons y r =>
      simp only [joinSp, List.map_cons, List.flatten_cons] at ih ⊢
      rw [tokenize_append_sp, ih]

/-- no field of the command contains a non-ASCII code point that `ri` lower-cases to ASCII -/
def NoAsciiFold (ri : RuneInfo) (c : Cmd) : Prop :=
  ∀ s, (s = c.command ∨ s = c.description ∨ s ∈ c.keywords ∨ s ∈ c.tags) →
    ∀ r ∈ runes s, 128 ≤ r → 128 ≤ ri.lower r

def AsciiCmd (c : Cmd) : Prop :=
  isAsciiStr c.command = true ∧ isAsciiStr c.description = true ∧
  (∀ k ∈ c.keywords, isAsciiStr k = true) ∧ (∀ k ∈ c.tags, isAsciiStr k = true)

theorem joinSp_nil_iff_tokens (xs : List Bytes) (h : xs = []) : tokenize (joinSp xs) = [] := by
  subst h; rfl

theorem tokenize_text_of_wf {ri : RuneInfo} {raw low : Bytes} (hw : low = [] ∨ low = toLower ri raw)
    (h : tokenize (toLower ri raw) = tokenize raw) :
    tokenize (if low.isEmpty then raw else low) = tokenize raw := by
  cases hw with
  | inl e => simp [e]
  | inr e =>
    split
    · rfl
    · rw [e]; exact h

theorem tokenize_list_of_wf {ri : RuneInfo} {raw low : List Bytes} (hw : low = [] ∨ low = raw.map (toLower ri))
    (h : ∀ s ∈ raw, tokenize (toLower ri s) = tokenize s) :
    tokenize (if !low.isEmpty then joinSp low else if !raw.isEmpty then joinSp raw else []) =
      (raw.map tokenize).flatten := by
  have hraw : tokenize (if !raw.isEmpty then joinSp raw else []) = (raw.map tokenize).flatten := by
    cases raw with
    | nil => rfl
    | cons a b => simp [tokenize_joinSp]
  cases hw with
  | inl e => subst e; simpa using hraw
  | inr e =>
    by_cases hr : raw = []
    · subst hr; subst e; rfl
    · have : low.isEmpty = false := by rw [e]; simp [hr]
      simp only [this, Bool.not_false, ↓reduceIte]
      rw [e, tokenize_joinSp, List.map_map]
      exact congrArg List.flatten (List.map_congr_left h)

/-- With well-formed caches, if lower-casing leaves the tokens of every field text alone, what the engine indexes
    is the tokenisation of the raw fields.  Lower-casing does so for ASCII text (`tokenize_toLower_ascii`) and for
    text in which no non-ASCII rune is lower-cased to ASCII (`runsAux_toLowerGen`; Props/C03 `tokenize_toLower`). -/
theorem indexed_tokens_of {ri : RuneInfo} {c : Cmd} (hwf : WFCache ri c)
    (h : ∀ s, (s = c.command ∨ s = c.description ∨ s ∈ c.keywords ∨ s ∈ c.tags) → tokenize (toLower ri s) = tokenize s) :
    c.cmdTokens = tokenize c.command ∧ c.descTokens = tokenize c.description ∧
    c.keysTokens = (c.keywords.map tokenize).flatten ∧ c.tagsTokens = (c.tags.map tokenize).flatten :=
  ⟨tokenize_text_of_wf hwf.command (h _ (.inl rfl)),
   tokenize_text_of_wf hwf.description (h _ (.inr (.inl rfl))),
   tokenize_list_of_wf hwf.keywords (fun s hs => h s (.inr (.inr (.inl hs)))),
   tokenize_list_of_wf hwf.tags (fun s hs => h s (.inr (.inr (.inr hs))))⟩

end Wtf.Search
