import WtfModel.Proofs.IndexAssoc
import WtfModel.Proofs.ListBasics
/-
  C03: the incrementally built inverted index (`build`, mirrors BuildUniversalIndex / indexCommand) answers every
  lookup exactly like the scan specification (`scanPostings`, `dfOf`, `docLens`), for every database.  The invariant
  `BuildSpec` says so for the index of a prefix of the database; `addDoc` takes it from a prefix to the next.
-/
namespace Wtf.Index
open Text

def FieldTF.addN (x : FieldTF) : Field → Nat → FieldTF
  | .cmd, n => { x with cmd := x.cmd + n }
  | .desc, n => { x with desc := x.desc + n }
  | .keys, n => { x with keys := x.keys + n }
  | .tags, n => { x with tags := x.tags + n }

theorem FieldTF.addN_zero (x : FieldTF) (f : Field) : x.addN f 0 = x := by cases f <;> rfl

theorem FieldTF.inc_addN (x : FieldTF) (f : Field) (n : Nat) : (x.inc f).addN f n = x.addN f (n + 1) := by
  cases f <;> simp only [FieldTF.inc, FieldTF.addN, Nat.add_assoc, Nat.add_comm 1]

theorem count_cons (a : Token) (ts : List Token) (t : Token) :
    count (a :: ts) t = (if a = t then 1 else 0) + count ts t := by
  rw [count, count, List.filter_cons, Nat.add_comm]
  by_cases h : a = t <;> simp [h]

theorem nodup_keys_addTokens {m : List (Token × FieldTF)} (h : (m.map (·.1)).Nodup) (ts : List Token) (f : Field) :
    ((addTokens m ts f).map (·.1)).Nodup := by
  unfold addTokens
  induction ts generalizing m with
  | nil => exact h
  | cons a rest ih => simp only [List.foldl_cons]; exact ih (nodup_keys_upd h _ _ _)

theorem nodup_keys_docTF (c : Cmd) : ((docTF c).map (·.1)).Nodup := by
  unfold docTF
  exact nodup_keys_addTokens (nodup_keys_addTokens (nodup_keys_addTokens (nodup_keys_addTokens (by simp) _ _) _ _) _ _) _ _

theorem getD_look_addTokens (m : List (Token × FieldTF)) (ts : List Token) (f : Field) (t : Token) :
    (look (addTokens m ts f) t).getD {} = ((look m t).getD {}).addN f (count ts t) := by
  unfold addTokens
  induction ts generalizing m with
  | nil => exact (FieldTF.addN_zero _ f).symm
  | cons a rest ih =>
    rw [List.foldl_cons, ih, count_cons, look_upd]
    by_cases h : t = a
    · subst h
      rw [if_pos rfl, if_pos rfl, Option.getD_some, FieldTF.inc_addN, Nat.add_comm]
    · rw [if_neg h, if_neg (fun e => h e.symm), Nat.zero_add]

theorem isSome_look_addTokens (m : List (Token × FieldTF)) (ts : List Token) (f : Field) (t : Token) :
    (look (addTokens m ts f) t).isSome = ((look m t).isSome || !(count ts t == 0)) := by
  unfold addTokens
  induction ts generalizing m with
  | nil => simp [count]
  | cons a rest ih =>
    rw [List.foldl_cons, ih, count_cons, look_upd]
    by_cases h : t = a
    · subst h; simp
    · rw [if_neg h, if_neg (fun e => h e.symm), Nat.zero_add]

theorem look_docTF (c : Cmd) (t : Token) :
    look (docTF c) t = if containsTerm c t then some (tfOf c t) else none := by
  have hv : (look (docTF c) t).getD {} = tfOf c t := by
    unfold docTF
    simp only [getD_look_addTokens]
    simp [look, FieldTF.addN, tfOf]
  have hs : (look (docTF c) t).isSome = containsTerm c t := by
    unfold docTF containsTerm FieldTF.isZero tfOf
    simp only [isSome_look_addTokens]
    simp [look, Bool.or_assoc]
  rw [← hv, ← hs]
  cases look (docTF c) t <;> rfl

theorem look_foldl_docTF {α : Type} (c : Cmd) (d : α) (g : FieldTF → α → α) (m0 : List (Token × α)) (t : Token) :
    look ((docTF c).foldl (fun m x => upd m x.1 d (g x.2)) m0) t =
      if containsTerm c t then some (g (tfOf c t) ((look m0 t).getD d)) else look m0 t := by
  rw [look_foldl_upd _ (nodup_keys_docTF c), look_docTF]
  by_cases hc : containsTerm c t = true
  · rw [if_pos hc, if_pos hc]
  · rw [if_neg hc, if_neg hc]

theorem scanPostingsAux_eq (i : Nat) (db : Db) (t : Token) :
    scanPostingsAux i db t =
      ((db.zipIdx i).filter (containsTerm ·.1 t)).map fun p => { doc := p.2, tf := tfOf p.1 t } := by
  induction db generalizing i with
  | nil => rfl
  | cons c rest ih =>
    rw [scanPostingsAux, ih, List.zipIdx_cons, List.filter_cons]
    split <;> rfl

theorem scanPostings_append (db : Db) (c : Cmd) (t : Token) :
    scanPostings (db ++ [c]) t =
      scanPostings db t ++ (if containsTerm c t then [{ doc := db.length, tf := tfOf c t }] else []) := by
  simp only [scanPostings, scanPostingsAux_eq, List.zipIdx_append, List.filter_append, List.map_append, Nat.zero_add]
  congr 1
  simp only [List.zipIdx_cons, List.zipIdx_nil, List.filter_cons, List.filter_nil]
  split <;> rfl

theorem dfOf_append (db : Db) (c : Cmd) (t : Token) :
    dfOf (db ++ [c]) t = dfOf db t + (if containsTerm c t then 1 else 0) := by
  unfold dfOf
  rw [List.filter_append, List.length_append]
  by_cases h : containsTerm c t <;> simp [h]

theorem scanPostings_length (db : Db) (t : Token) : (scanPostings db t).length = dfOf db t := by
  have h := congrArg List.length (List.filter_map (f := Prod.fst) (p := (containsTerm · t)) (l := db.zipIdx 0))
  rw [List.zipIdx_map_fst, List.length_map] at h
  rw [scanPostings, scanPostingsAux_eq, List.length_map]
  exact h.symm

theorem scanPostings_isEmpty (db : Db) (t : Token) : (scanPostings db t).isEmpty = (dfOf db t == 0) := by
  rw [← scanPostings_length]
  cases scanPostings db t <;> simp

theorem scanPostingsAux_sorted (i : Nat) (db : Db) (t : Token) :
    ((scanPostingsAux i db t).map (·.doc)).Pairwise (· < ·) := by
  rw [scanPostingsAux_eq, List.map_map]
  -- the ids are a sub-list of `i, i + 1, …`
  have hs : (((db.zipIdx i).filter (containsTerm ·.1 t)).map (·.2)).Sublist (List.range' i db.length) :=
    List.zipIdx_map_snd i db ▸ List.filter_sublist.map _
  exact List.Pairwise.sublist hs List.pairwise_lt_range'

theorem nodup_scanPostings (db : Db) (t : Token) : ((scanPostings db t).map (·.doc)).Nodup :=
  (scanPostingsAux_sorted 0 db t).imp Nat.ne_of_lt

theorem mem_scanPostings {db : Db} {t : Token} {p : Posting} :
    p ∈ scanPostings db t ↔ ∃ c, db[p.doc]? = some c ∧ containsTerm c t = true ∧ p.tf = tfOf c t := by
  rw [scanPostings, scanPostingsAux_eq, List.mem_map]
  constructor
  · rintro ⟨⟨c, k⟩, hm, rfl⟩
    obtain ⟨hz, hc⟩ := List.mem_filter.mp hm
    exact ⟨c, List.mk_mem_zipIdx_iff_getElem?.mp hz, hc, rfl⟩
  · rintro ⟨c, hc, hct, htf⟩
    exact ⟨(c, p.doc), List.mem_filter.mpr ⟨List.mk_mem_zipIdx_iff_getElem?.mpr hc, hct⟩, by rw [← htf]⟩

theorem find_scanPostings (db : Db) (t : Token) (k : Nat) :
    (scanPostings db t).find? (·.doc == k) =
      match db[k]? with
      | some c => if containsTerm c t then some { doc := k, tf := tfOf c t } else none
      | none => none := by
  -- the ids are distinct, and document `k` has a posting iff command `k` contains the term
  by_cases h : ∃ c, db[k]? = some c ∧ containsTerm c t = true
  · obtain ⟨c, hc, hct⟩ := h
    rw [hc]
    simp only [hct, if_true]
    exact find?_of_nodup_map Posting.doc (nodup_scanPostings db t)
      (x := { doc := k, tf := tfOf c t }) (mem_scanPostings.mpr ⟨c, hc, hct, rfl⟩)
  · have hnone : (scanPostings db t).find? (·.doc == k) = none :=
      List.find?_eq_none.mpr fun p hp hk =>
        let ⟨c, hc, hct, _⟩ := mem_scanPostings.mp hp
        h ⟨c, beq_iff_eq.mp hk ▸ hc, hct⟩
    rw [hnone]
    cases hc : db[k]? with
    | none => rfl
    | some c => simp only; rw [if_neg fun hct => h ⟨c, hc, hct⟩]

theorem build_append (db : Db) (c : Cmd) : build (db ++ [c]) = addDoc (build db) c := by
  simp [build, List.foldl_append]

theorem build_nil : build [] = {} := rfl

/-- invariant proved by induction over the documents, in the order BuildUniversalIndex visits them -/
structure BuildSpec (db : Db) (idx : Index) : Prop where
  postings : ∀ t, look idx.postings t = if (scanPostings db t).isEmpty then none else some (scanPostings db t)
  df : ∀ t, look idx.df t = if dfOf db t = 0 then none else some (dfOf db t)
  lens : idx.lens = db.map docLens
  n : idx.n = db.length

/-- how the scoring loop reads the two maps: an absent entry is the empty list / zero -/
theorem BuildSpec.postings_getD {db : Db} {idx : Index} (h : BuildSpec db idx) (t : Token) :
    (look idx.postings t).getD [] = scanPostings db t := by
  rw [h.postings]; split <;> simp_all

theorem BuildSpec.df_getD {db : Db} {idx : Index} (h : BuildSpec db idx) (t : Token) :
    (look idx.df t).getD 0 = dfOf db t := by
  rw [h.df]; split <;> simp_all

theorem buildSpec_nil : BuildSpec [] {} :=
  ⟨fun t => by simp [scanPostings, scanPostingsAux, look], fun t => by simp [dfOf, look], rfl, rfl⟩

theorem buildSpec_addDoc {db : Db} {idx : Index} (h : BuildSpec db idx) (c : Cmd) :
    BuildSpec (db ++ [c]) (addDoc idx c) := by
  have hlen : idx.lens.length = db.length := by rw [h.lens, List.length_map]
  refine ⟨fun t => ?_, fun t => ?_, ?_, ?_⟩
  · refine (look_foldl_docTF c [] (fun ftf l => l ++ [{ doc := idx.lens.length, tf := ftf }]) idx.postings t).trans ?_
    rw [h.postings_getD, scanPostings_append, hlen]
    by_cases hc : containsTerm c t <;> simp [hc, h.postings]
  · refine (look_foldl_docTF c 0 (fun _ n => n + 1) idx.df t).trans ?_
    rw [h.df_getD, dfOf_append]
    by_cases hc : containsTerm c t <;> simp [hc, h.df]
  · show idx.lens ++ [docLens c] = _
    rw [h.lens, List.map_append, List.map_singleton]
  · show idx.n + 1 = _
    rw [h.n, List.length_append, List.length_singleton]

theorem buildSpec_foldl (db pre : Db) (idx : Index) (h : BuildSpec pre idx) :
    BuildSpec (pre ++ db) (db.foldl addDoc idx) := by
  induction db generalizing pre idx with
  | nil => simpa using h
  | cons c rest ih =>
    have := ih (pre ++ [c]) (addDoc idx c) (buildSpec_addDoc h c)
    simpa using this

theorem buildSpec_build (db : Db) : BuildSpec db (build db) := by
  have := buildSpec_foldl db [] {} buildSpec_nil
  simpa [build] using this

theorem sumLens_spec (ls : List DocLens) :
    sumLens ls = { cmd := (ls.map (·.cmd)).sum, desc := (ls.map (·.desc)).sum,
                   keys := (ls.map (·.keys)).sum, tags := (ls.map (·.tags)).sum } := by
  suffices h : ∀ a : DocLens,
      ls.foldl (fun a l => { cmd := a.cmd + l.cmd, desc := a.desc + l.desc, keys := a.keys + l.keys, tags := a.tags + l.tags }) a =
        { cmd := a.cmd + (ls.map (·.cmd)).sum, desc := a.desc + (ls.map (·.desc)).sum,
          keys := a.keys + (ls.map (·.keys)).sum, tags := a.tags + (ls.map (·.tags)).sum } by
    rw [sumLens, h]; simp
  induction ls with
  | nil => simp
  | cons l rest ih =>
    intro a
    simp only [List.foldl_cons, ih, List.map_cons, List.sum_cons, Nat.add_assoc]

end Wtf.Index
