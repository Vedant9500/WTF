import WtfModel.Model.Notebook
/-! For C08.  `save` is "overwrite at `indexOf`, or append" (`save_eq`); positions, length and membership of the saved list
  are read off that form.  On a notebook file that decodes, `saveFile` succeeds exactly when the new list reads back as it
  was written (`saveFile_eq`). -/
namespace Wtf.Notebook

theorem present_cons (c : Bytes) (x : Cmd) (xs : List Cmd) :
    present c (x :: xs) = (decide (x.command = c) || present c xs) := List.any_cons

theorem indexOf_eq_findIdx (c : Bytes) (xs : List Cmd) : indexOf c xs = xs.findIdx (fun x => decide (x.command = c)) := by
  induction xs with
  | nil => rfl
  | cons x xs ih => by_cases h : x.command = c <;> simp [indexOf, List.findIdx_cons, h, ih]

theorem indexOf_lt_of_present (c : Bytes) (xs : List Cmd) (h : present c xs = true) : indexOf c xs < xs.length := by
  rw [indexOf_eq_findIdx]; exact List.findIdx_lt_length_of_exists (List.any_eq_true.mp h)

theorem indexOf_eq_length_of_absent (c : Bytes) (xs : List Cmd) (h : present c xs = false) : indexOf c xs = xs.length := by
  rw [indexOf_eq_findIdx, List.findIdx_eq_length]
  simpa [present] using h

theorem indexOf_le (c : Bytes) (xs : List Cmd) : indexOf c xs ≤ xs.length := by
  rw [indexOf_eq_findIdx]; exact List.findIdx_le_length

theorem getElem_indexOf {c : Bytes} {xs : List Cmd} {x : Cmd} (h : xs[indexOf c xs]? = some x) : x.command = c := by
  rw [indexOf_eq_findIdx] at h
  obtain ⟨hlt, rfl⟩ := List.getElem?_eq_some_iff.mp h
  simpa using List.findIdx_getElem (w := hlt)

theorem save_eq (xs : List Cmd) (e : Cmd) :
    save xs e = if present e.command xs then xs.set (indexOf e.command xs) e else xs ++ [e] := by
  fun_induction save xs e with
  | case1 e => rfl
  | case2 x xs e h => simp [present_cons, indexOf, h]
  | case3 x xs e h ih =>
    rw [ih, present_cons, indexOf, if_neg h, decide_eq_false h, Bool.false_or]
    split <;> rfl

theorem save_mem (xs : List Cmd) (e : Cmd) : e ∈ save xs e := by
  rw [save_eq]
  split
  · rename_i h; exact List.mem_set (indexOf_lt_of_present _ _ h) e
  · exact List.mem_append_right _ (List.mem_singleton.mpr rfl)

theorem save_getElem_index (xs : List Cmd) (e : Cmd) : (save xs e)[indexOf e.command xs]? = some e := by
  rw [save_eq]
  split
  · rename_i h; simp [List.getElem?_set_self (indexOf_lt_of_present _ _ h)]
  · rename_i h; simp [indexOf_eq_length_of_absent _ _ (by simpa using h)]

theorem save_getElem_other {xs : List Cmd} {e : Cmd} {i : Nat} (hi : i < xs.length) (hne : i ≠ indexOf e.command xs) :
    (save xs e)[i]? = xs[i]? := by
  rw [save_eq]
  split
  · exact List.getElem?_set_ne (Ne.symm hne)
  · exact List.getElem?_append_left hi

theorem save_length (xs : List Cmd) (e : Cmd) :
    (save xs e).length = if present e.command xs then xs.length else xs.length + 1 := by
  rw [save_eq]; split <;> simp

theorem save_commands (xs : List Cmd) (e : Cmd) :
    (save xs e).map (·.command) =
      if present e.command xs then xs.map (·.command) else xs.map (·.command) ++ [e.command] := by
  fun_induction save xs e with
  | case1 e => rfl
  | case2 x xs e h => simp [present_cons, h]
  | case3 x xs e h ih =>
    rw [List.map_cons, ih, present_cons, decide_eq_false h, Bool.false_or]
    split <;> rfl

theorem not_mem_commands_of_absent {c : Bytes} {xs : List Cmd} (h : present c xs = false) : c ∉ xs.map (·.command) := by
  simpa [present] using h

theorem save_nodup (xs : List Cmd) (e : Cmd) (h : (xs.map (·.command)).Nodup) : ((save xs e).map (·.command)).Nodup := by
  rw [save_commands]
  cases hp : present e.command xs with
  | true => exact h
  | false =>
    exact List.nodup_append.mpr ⟨h, List.pairwise_singleton .., fun a ha b hb => by
      rw [List.mem_singleton.mp hb]; exact fun e' => not_mem_commands_of_absent hp (e' ▸ ha)⟩

variable (enc : List Cmd → Bytes) (dec : Bytes → Option (List Cmd))

theorem saveFile_eq {file : Option Bytes} {xs : List Cmd} (hx : loadFile dec file = some xs) (e : Cmd) :
    saveFile enc dec file e =
      if dec (enc (save xs e)) = some (save xs e) then .ok (enc (save xs e)) else .error .unfaithful := by
  rw [saveFile, hx]

theorem saveFile_ok {file : Option Bytes} {e : Cmd} {b : Bytes} (h : saveFile enc dec file e = .ok b) :
    ∃ xs, loadFile dec file = some xs ∧ b = enc (save xs e) ∧ dec b = some (save xs e) := by
  cases hx : loadFile dec file with
  | none => rw [saveFile, hx] at h; cases h
  | some xs =>
    rw [saveFile_eq enc dec hx] at h
    split at h
    · rename_i hrt; cases h; exact ⟨xs, rfl, rfl, hrt⟩
    · cases h

theorem saveFile_of_roundtrip {file : Option Bytes} {e : Cmd} {xs : List Cmd} (hx : loadFile dec file = some xs)
    (hrt : RoundTrips enc dec (save xs e)) : saveFile enc dec file e = .ok (enc (save xs e)) :=
  (saveFile_eq enc dec hx e).trans (if_pos hrt)

/-- asked of the lists that occur, the notebook after each save, and of no other -/
theorem succeeded_all (es : List Cmd) :
    ∀ (file : Option Bytes) (xs : List Cmd), loadFile dec file = some xs →
      (∀ k < es.length, RoundTrips enc dec ((es.take (k + 1)).foldl save xs)) → succeeded enc dec file es = es := by
  induction es with
  | nil => intros; rfl
  | cons e es ih =>
    intro file xs hx hrt
    have h1 : RoundTrips enc dec (save xs e) := hrt 0 (Nat.zero_lt_succ _)
    rw [succeeded, saveFile_of_roundtrip enc dec hx h1]
    exact congrArg (e :: ·) (ih _ (save xs e) h1 fun k hk => hrt (k + 1) (Nat.succ_lt_succ hk))

end Wtf.Notebook
