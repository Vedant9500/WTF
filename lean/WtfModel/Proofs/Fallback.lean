import WtfModel.Proofs.SearchBasic
/-
  The typo fallback (performFuzzySearch + limitResults) in closed form: the library's sorted matches, filtered by the
  three tests of the loop body (`Kept`), cut at the limit, scores normalised.  Everything C01, C04 and C07 say about
  fallback answers is a `List.filter / take / map` fact about this.  `Kept` and the facts about `nulToSpace` are in
  namespace `Wtf.C07`, which the `Wtf.Search` part below opens.  Core Lean only.
-/
namespace Wtf.C07
open Wtf.Filters Wtf.Search

theorem nulToSpace_ne_zero (s : Bytes) : ∀ b ∈ nulToSpace s, b ≠ 0 := by
  intro b hb
  simp only [nulToSpace, List.mem_map] at hb
  obtain ⟨a, _, rfl⟩ := hb
  split
  · decide
  · rename_i h; simpa using h

/-- the targets handed to the matcher contain no NUL byte (performFuzzySearch's `ReplaceAll`) -/
theorem fuzzyTarget_bytes_ne_zero (c : Cmd) : ∀ b ∈ fuzzyTarget c, b ≠ 0 := nulToSpace_ne_zero _

theorem map_eq_ok {ε α β : Type} {f : α → β} {x : Except ε α} {b : β} (h : x.map f = .ok b) :
    ∃ a, x = .ok a ∧ f a = b := by
  cases x with
  | error e => cases h
  | ok a => exact ⟨a, rfl, by injection h⟩

variable {S : Type}

def Kept (T : Tuning S) (db : Db) (o : Opts S) (m : Nat × Int) : Prop :=
  Eligible T db o m.1 ∧ (o.fuzzyThreshold ≠ 0 → o.fuzzyThreshold ≤ m.2)

instance (T : Tuning S) (db : Db) (o : Opts S) (m : Nat × Int) : Decidable (Kept T db o m) := by
  unfold Kept Eligible
  cases h : db[m.1]? with
  | none => exact isFalse (by rintro ⟨⟨c, hc, _⟩, _⟩; cases hc)
  | some c =>
    by_cases hp : passes T.ri T.host o.filter c = true
    · by_cases ht : o.fuzzyThreshold ≠ 0 → o.fuzzyThreshold ≤ m.2
      · exact isTrue ⟨⟨c, rfl, hp⟩, ht⟩
      · exact isFalse (fun h' => ht h'.2)
    · exact isFalse (by rintro ⟨⟨c', hc', hp'⟩, _⟩; cases hc'; exact hp hp')

end Wtf.C07

namespace Wtf.Search
open Wtf.Filters Wtf.Fuzzy Wtf.C07

variable {S : Type} [ScoreOps S]
variable (T : Tuning S) (db : Db) (o : Opts S)

/-- the three tests of `performFuzzySearch`'s loop body (entry exists, gate, threshold) are `Kept` -/
theorem fuzzyCollect_cons (cap : Nat) (m : Nat × Int) (rest : List (Nat × Int))
    (acc : List (Nat × S)) :
    fuzzyCollect T db o cap (m :: rest) acc =
      if acc.length ≥ cap then acc.reverse
      else if Kept T db o m then fuzzyCollect T db o cap rest ((m.1, normalizeFuzzy m.2) :: acc)
      else fuzzyCollect T db o cap rest acc := by
  obtain ⟨i, sc⟩ := m
  rw [fuzzyCollect]
  split
  · rfl
  · have hk : Kept T db o (i, sc) ↔ ∃ c, db[i]? = some c ∧ passes T.ri T.host o.filter c = true ∧
        ¬ (o.fuzzyThreshold ≠ 0 ∧ sc < o.fuzzyThreshold) := by
      simp only [Kept, Eligible, Int.not_lt, not_and]
      exact ⟨fun ⟨⟨c, h1, h2⟩, h3⟩ => ⟨c, h1, h2, h3⟩, fun ⟨c, h1, h2, h3⟩ => ⟨⟨c, h1, h2⟩, h3⟩⟩
    cases hc : db[i]? with
    | none => simp [hk, hc]
    | some c =>
      by_cases hp : passes T.ri T.host o.filter c = true
      · by_cases ht : o.fuzzyThreshold ≠ 0 ∧ sc < o.fuzzyThreshold
        · simp [hk, hc, hp, ht]
        · simp [hk, hc, hp, ht]
      · simp [hk, hc, hp]

theorem fuzzyCollect_eq (cap : Nat) (l : List (Nat × Int)) (acc : List (Nat × S)) :
    fuzzyCollect T db o cap l acc = acc.reverse ++
      ((l.filter (fun m => decide (Kept T db o m))).take (cap - acc.length)).map (fun m => (m.1, normalizeFuzzy m.2)) := by
  induction l generalizing acc with
  | nil => simp [fuzzyCollect]
  | cons m rest ih =>
    rw [fuzzyCollect_cons]
    split
    · rename_i hcap
      simp [Nat.sub_eq_zero_of_le hcap]
    · rename_i hcap
      split
      · rename_i hk
        have : cap - acc.length = (cap - (acc.length + 1)) + 1 := by omega
        rw [ih, List.filter_cons_of_pos (by simpa using hk), this, List.take_succ_cons]
        simp
      · rename_i hk
        rw [ih, List.filter_cons_of_neg (by simpa using hk)]

def fuzzyKept (T : Tuning S) (db : Db) (o : Opts S) (limit : Nat) (ms : List (Nat × Int)) : List (Nat × Int) :=
  ((T.fuzzySort ms).filter (fun m => decide (Kept T db o m))).take limit

/-- the loop's cap `limit * fuzzyMult` is at least `limit`, so only the final cut shows -/
theorem fuzzySearch_eq (nq : Bytes) (o : Opts S) (limit : Nat) :
    fuzzySearch T db nq o limit =
      (findNoSort T.ri nq (db.map fuzzyTarget)).map fun ms => (fuzzyKept T db o limit ms).map (fun m => (m.1, normalizeFuzzy m.2)) := by
  unfold fuzzySearch
  cases findNoSort T.ri nq (db.map fuzzyTarget) with
  | error e => rfl
  | ok ms =>
    simp only [Except.map, fuzzyCollect_eq, fuzzyKept, List.reverse_nil, List.nil_append, List.length_nil, Nat.sub_zero,
      ← List.map_take, List.take_take, Nat.min_eq_left (Nat.le_mul_of_pos_right limit (by decide : 0 < fuzzyMult))]

omit [ScoreOps S] in
theorem fuzzyKept_sublist (limit : Nat) (ms : List (Nat × Int)) :
    (fuzzyKept T db o limit ms).Sublist (T.fuzzySort ms) :=
  (List.take_sublist _ _).trans List.filter_sublist

variable {T db o}

theorem fuzzySearch_inv {nq : Bytes} {limit : Nat} {r : List (Nat × S)}
    (h : fuzzySearch T db nq o limit = .ok r) :
    ∃ ms, findNoSort T.ri nq (db.map fuzzyTarget) = .ok ms ∧
      r = (fuzzyKept T db o limit ms).map (fun m => (m.1, normalizeFuzzy m.2)) := by
  rw [fuzzySearch_eq] at h
  obtain ⟨ms, hms, e⟩ := map_eq_ok h
  exact ⟨ms, hms, e.symm⟩

omit [ScoreOps S] in
theorem kept_of_mem_fuzzyKept {limit : Nat} {ms : List (Nat × Int)}
    {m : Nat × Int} (h : m ∈ fuzzyKept T db o limit ms) : Kept T db o m :=
  of_decide_eq_true (List.mem_filter.mp (List.mem_of_mem_take h)).2

theorem fuzzySearch_eligible {nq : Bytes} {limit : Nat}
    {r : List (Nat × S)} (h : fuzzySearch T db nq o limit = .ok r) : ∀ x ∈ r, Eligible T db o x.1 := by
  obtain ⟨ms, _, rfl⟩ := fuzzySearch_inv h
  intro x hx
  obtain ⟨m, hm, rfl⟩ := List.mem_map.mp hx
  exact (kept_of_mem_fuzzyKept hm).1

end Wtf.Search
