import WtfModel.Model.Cli
import WtfModel.Proofs.Decimal
/-
  `%d` of the CLI's formatter (`Cli.natDec`, a loop with fuel and an accumulator) prints the decimal digits
  `KeyJson.natDigits`, whose theory is Proofs/Decimal.lean; so `%d` of an integer is the text strconv.AppendInt writes
  into the cache key (`KeyJson.intText`).  Last, the one fact about `Cli.objFields` that both Proofs/Cli.lean and
  Proofs/JsonText.lean use (`objFields_names`): this is the module both import.  Core Lean only.
-/
namespace Wtf.Cli
open Wtf.KeyJson

theorem natDecAux_eq : ∀ (fuel n : Nat) (acc : Bytes), n < fuel → natDecAux fuel n acc = natDigits n ++ acc
  | 0, _, _, h => absurd h (Nat.not_lt_zero _)
  | fuel + 1, n, acc, h => by
    rw [natDecAux, natDigits]
    split
    · rename_i h10
      rw [Nat.mod_eq_of_lt h10]
      rfl
    · rw [natDecAux_eq fuel (n / 10) _ (by omega), List.append_assoc]
      rfl

theorem natDec_eq (n : Nat) : natDec n = natDigits n :=
  (natDecAux_eq (n + 1) n [] (Nat.lt_succ_self n)).trans (List.append_nil _)

theorem intDec_eq (i : Int) : intDec i = intText i := by
  unfold intDec intText
  rw [natDec_eq]

theorem objFields_names {S : Type} [ScoreOps S] (fields : List Gen.Cli.JsonField) (it : Item S) :
    ∀ kv ∈ objFields fields it, ∃ f ∈ fields, kv.1 = f.jsonName := by
  intro kv hkv
  simp only [objFields, List.mem_flatMap] at hkv
  obtain ⟨f, hf, hm⟩ := hkv
  split at hm
  · simp at hm
  · simp only [List.mem_singleton] at hm
    exact ⟨f, hf, by rw [hm]⟩

end Wtf.Cli
