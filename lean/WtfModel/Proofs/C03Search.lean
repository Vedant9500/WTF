import WtfModel.Proofs.C03Scan
import WtfModel.Proofs.C03Terms
import WtfModel.Proofs.SearchPaths
/-
  C03: `search` in terms of the scan specification: an entry of the score map read as a scan entry (any boost table), and,
  with NLP expansion off, the score map and the ids of the answer.  No law about the score type is used.
-/
namespace Wtf.Search
open Text Index Filters ScoreOps

variable {S : Type} [ScoreOps S]
variable (T : Tuning S) (db : Db) (q : Bytes) (o : Opts S)

/-- the pipeline boost of collectResults (the only factor applied to a score when NLP is off) -/
def pipeAdj (T : Tuning S) (o : Opts S) (c : Cmd) (s : S) : S :=
  if isPipeline T.ri c && lt zero o.pipelineBoost then mul s o.pipelineBoost else s

theorem scoresOf_off {o : Opts S} (hn : o.useNLP = false) :
    scoresOf T db q o =
      initialScores T db (build db) o none (selectTopTerms T (build db) (tokenize (T.normQ q)) (effCap o)) := by
  rw [scoresOf, termsOf, pqOf_off hn]

theorem scan_of_mem_scores (pq : Option (NlpOut S)) (terms : List Token)
    {d : Nat} {s0 : S} (h : (d, s0) ∈ initialScores T db (build db) o pq terms) :
    ∃ c, db[d]? = some c ∧ passes T.ri T.host o.filter c = true ∧ scanScore T db (termBoosts o pq) terms c = some s0 := by
  have hinv := initialScores_inv T db (build db) o pq terms
  obtain ⟨c, hc, hp⟩ := hinv.2 d (List.mem_map_of_mem h)
  have hl := lookup_of_mem hinv.1 h
  rw [lookup_initialScores T db (build db) (buildSpec_build db), hc] at hl
  exact ⟨c, hc, hp, by simpa only [hp, if_true] using hl⟩

theorem search_off_ids (hn : o.useNLP = false) (hf : o.useFuzzy = false) (hlim : db.length ≤ effLimit o) :
    ∃ res, search T db q o = .ok res ∧ (res.map (·.1)).Nodup ∧
      ∀ d, d ∈ res.map (·.1) ↔
        (scanEntry T db o (selectTopTerms T (build db) (tokenize (T.normQ q)) (effCap o)) d).isSome = true := by
  obtain ⟨res, h1, hp⟩ := search_ids_perm T db q o hf hlim
  rw [scoresOf_off T db q hn] at hp
  -- the answer is a permutation of the score map's keys, which are strictly increasing
  refine ⟨res, h1, hp.nodup_iff.mpr (keysSorted_nodup (initialScores_inv ..).1), fun d => ?_⟩
  rw [hp.mem_iff, ← lookup_isSome_iff_mem, lookup_initialScores T db (build db) (buildSpec_build db)]
  rfl

end Wtf.Search
