import WtfModel.Proofs.Metrics
import WtfModel.Proofs.MetricsSimp

/-!
  C18, the monitor: a run of `PerformanceMonitor` as the iteration of what one call does to one series (`Advances`: while
  enabled, a call for which `p` holds applies `d` to the observed value, any other call leaves it; `run_iterate`), distinctness /
  injectivity of the keys the calls use, and the interleaving model.
-/
namespace Wtf.Metrics

variable {α : Type} [Num α]

def nextEnabled (en : Bool) : MonOp α → Bool
  | .enable b => b
  | _ => en

/-- number of calls satisfying `p` made while the monitor is enabled -/
def countOps (p : MonOp α → Bool) : Bool → List (MonOp α) → Nat
  | _, [] => 0
  | en, op :: rest => (if en && p op then 1 else 0) + countOps p (nextEnabled en op) rest

theorem step_enabled (cfg : Cfg α) (m : Monitor α) (op : MonOp α) :
    (m.step cfg op).enabled = nextEnabled m.enabled op := by
  cases op <;> simp only [Monitor.step, Monitor.recordSearch, Monitor.recordDb, nextEnabled] <;>
    cases h : m.enabled <;> simp [h]

theorem step_c_disabled (cfg : Cfg α) (m : Monitor α) (op : MonOp α) (he : m.enabled = false) :
    (m.step cfg op).c = m.c := by
  cases op <;> simp [Monitor.step, Monitor.recordSearch, Monitor.recordDb, he]

def Advances {γ : Type} (cfg : Cfg α) (obs : Collector α → γ) (d : γ → γ) (p : MonOp α → Bool) (op : MonOp α) : Prop :=
  ∀ m : Monitor α, obs (m.step cfg op).c = if m.enabled && p op then d (obs m.c) else obs m.c

theorem Advances.of_enabled {γ : Type} {cfg : Cfg α} {obs : Collector α → γ} {d : γ → γ} {p : MonOp α → Bool}
    {op : MonOp α} (h : ∀ m : Monitor α, m.enabled = true → obs (m.step cfg op).c = if p op then d (obs m.c) else obs m.c) :
    Advances cfg obs d p op := by
  intro m
  cases he : m.enabled
  · rw [step_c_disabled cfg m op he]; rfl
  · exact h m he

/-- `g` is a closed form of the iterates of `d`: `fun n => wrap64 n` for a counter, `id` for a number of observations. -/
theorem run_iterate {γ : Type} (cfg : Cfg α) (obs : Collector α → γ) (d : γ → γ) (p : MonOp α → Bool)
    (g : Nat → γ) (hg : ∀ n, d (g n) = g (n + 1)) :
    ∀ (ops : List (MonOp α)), (∀ op ∈ ops, Advances cfg obs d p op) →
      ∀ (m : Monitor α) (k : Nat), obs m.c = g k → obs (m.run cfg ops).c = g (k + countOps p m.enabled ops) := by
  intro ops
  induction ops with
  | nil => intro _ m k h; exact h
  | cons op rest ih =>
    intro hstep m k h
    rw [Monitor.run, List.foldl_cons, ← Monitor.run, countOps, ← step_enabled cfg m op, ← Nat.add_assoc]
    refine ih (fun o ho => hstep o (List.mem_cons_of_mem _ ho)) _ _ ?_
    rw [hstep op List.mem_cons_self m, h]
    cases m.enabled && p op
    · rfl
    · exact hg k

theorem run_counter (cfg : Cfg α) (K : Bytes) (p : MonOp α → Bool) (ops : List (MonOp α))
    (hstep : ∀ op ∈ ops, Advances cfg (fun c => valD c.counters K 0) (counterStep · .inc) p op) :
    valD ((Monitor.new : Monitor α).run cfg ops).c.counters K 0 = wrap64 (countOps p true ops) := by
  have hg : ∀ n : Nat, counterStep (wrap64 n) .inc = wrap64 (n + 1 : Nat) := fun n => by
    rw [counterStep, wrap64_add_wrap64]; rfl
  have h0 : (0 : Int) = wrap64 (0 : Nat) := by decide
  have h := run_iterate cfg _ (counterStep · .inc) p (fun n => wrap64 n) hg ops hstep Monitor.new 0 h0
  rwa [Nat.zero_add] at h

theorem run_count (cfg : Cfg α) (reg : Collector α → Registry (Hist α)) (hreg : reg Collector.empty = [])
    (K : Bytes) (p : MonOp α → Bool) (ops : List (MonOp α))
    (hstep : ∀ op ∈ ops, Advances cfg (fun c => (valD (reg c) K (Hist.new cfg.defaultBuckets)).count) (· + 1) p op) :
    (valD (reg ((Monitor.new : Monitor α).run cfg ops).c) K (Hist.new cfg.defaultBuckets)).count = countOps p true ops := by
  have h0 : (valD (reg (Monitor.new : Monitor α).c) K (Hist.new cfg.defaultBuckets)).count = 0 := by
    show (valD (reg Collector.empty) K _).count = 0
    rw [hreg]; rfl
  have h := run_iterate cfg _ _ p id (fun _ => rfl) ops hstep Monitor.new 0 h0
  rwa [Nat.zero_add] at h

theorem key_notags (sorts : Bool) (sp : Seps) (name : Bytes) : metricKey sorts sp name [] [] = name := rfl

theorem key_onetag (sorts : Bool) (sp : Seps) (name k v : Bytes) :
    metricKey sorts sp name [(k, v)] [k] = name ++ sp.tag ++ k ++ sp.kv ++ v := by
  cases sorts <;> simp [metricKey, render, sortKeys, sortBy, insertBy, tagValue]

theorem sortKeys_db : sortKeys [tOperation, tSuccess] = [tOperation, tSuccess] := by decide +kernel

theorem tOperation_ne_tSuccess : ¬ tOperation = tSuccess := by decide +kernel

theorem tagValue_db (o : Bytes) (s : Bool) :
    tagValue (dbTags o s) tOperation = o ∧ tagValue (dbTags o s) tSuccess = boolTag s :=
  ⟨if_pos rfl, (if_neg tOperation_ne_tSuccess).trans (if_pos rfl)⟩

theorem key_db (sp : Seps) (name o : Bytes) (s : Bool) {σ : List Bytes} (hσ : ValidSched (dbTags o s) σ) :
    metricKey true sp name (dbTags o s) σ =
      name ++ sp.tag ++ tOperation ++ sp.kv ++ o ++ sp.tag ++ tSuccess ++ sp.kv ++ boolTag s := by
  have h1 : sortKeys σ = [tOperation, tSuccess] := (sortKeys_perm_eq hσ).trans sortKeys_db
  -- by `rw`, not `simp`: rewriting the condition of `if tOperation = tSuccess` would leave the kernel two
  -- `Decidable` instances to compare, which it does by evaluating the two string literals
  rw [metricKey, if_neg (by simp [dbTags]), if_pos rfl, h1, render, List.foldl_cons, List.foldl_cons, List.foldl_nil,
    (tagValue_db o s).1, (tagValue_db o s).2]

theorem boolTag_suffix_ne (u v : Bytes) : u ++ boolTag true ≠ v ++ boolTag false := by
  intro h
  have e1 : boolTag true = [116, 114, 117, 101] := by decide +kernel
  have e2 : boolTag false = [102, 97, 108, 115, 101] := by decide +kernel
  rw [e1, e2] at h
  have := congrArg List.reverse h
  simp at this

theorem boolTag_suffix_inj {u v : Bytes} {a b : Bool} (h : u ++ boolTag a = v ++ boolTag b) : a = b := by
  cases a <;> cases b
  · rfl
  · exact absurd h.symm (boolTag_suffix_ne v u)
  · exact absurd h (boolTag_suffix_ne u v)
  · rfl

/-- Nothing is asked of the separators or of `o`: past the common prefix the flag is read off the end of the key, and
    what stands before equal ends is `o`. -/
theorem key_db_eq_iff (sp : Seps) (name : Bytes) {o o' : Bytes} {s s' : Bool} {σ σ' : List Bytes}
    (hσ : ValidSched (dbTags o s) σ) (hσ' : ValidSched (dbTags o' s') σ') :
    metricKey true sp name (dbTags o s) σ = metricKey true sp name (dbTags o' s') σ' ↔ o = o' ∧ s = s' := by
  refine ⟨fun h => ?_, fun ⟨ho, hs⟩ => by subst ho hs; exact metricKey_sorted_indep _ _ _ (hσ.trans hσ'.symm)⟩
  rw [key_db sp name o s hσ, key_db sp name o' s' hσ'] at h
  simp only [List.append_assoc] at h
  have h := List.append_cancel_left (List.append_cancel_left (List.append_cancel_left (List.append_cancel_left h)))
  have hs : s = s' := boolTag_suffix_inj (by simpa only [← List.append_assoc] using h)
  subst hs
  exact ⟨(List.append_inj' h rfl).1, rfl⟩

theorem key_search_eq_iff (sorts : Bool) (sp : Seps) (name : Bytes) (b b' : Bool) :
    metricKey sorts sp name (searchTags b) [tCacheHit] = metricKey sorts sp name (searchTags b') [tCacheHit] ↔ b = b' := by
  refine ⟨fun h => ?_, fun h => by rw [h]⟩
  simp only [searchTags, key_onetag] at h
  exact boolTag_suffix_inj h

theorem key_notags_eq_iff (sorts sorts' : Bool) (sp : Seps) (n n' : Bytes) :
    metricKey sorts sp n [] [] = metricKey sorts' sp n' [] [] ↔ n = n' := Iff.rfl

theorem key_ne_of_head {sorts sorts' : Bool} {sp : Seps} {n n' : Bytes} {t t' : Tags} {σ σ' : List Bytes}
    (hn : n ≠ []) (hn' : n' ≠ []) (hh : n.head? ≠ n'.head?) :
    metricKey sorts sp n t σ ≠ metricKey sorts' sp n' t' σ' := by
  intro h
  have := congrArg List.head? h
  rw [metricKey_head _ _ _ _ _ hn, metricKey_head _ _ _ _ _ hn'] at this
  exact hh this

theorem key_ne_of_head' {sorts sorts' : Bool} {sp : Seps} {n n' : Bytes} {t t' : Tags} {σ σ' : List Bytes}
    (hn : n ≠ []) (hn' : n' ≠ []) (hh : n'.head? ≠ n.head?) :
    metricKey sorts sp n t σ ≠ metricKey sorts' sp n' t' σ' :=
  key_ne_of_head hn hn' (Ne.symm hh)

def isSearch (b : Bool) : MonOp α → Bool
  | .search _ _ hit _ => hit == b
  | _ => false

def isAnySearch : MonOp α → Bool
  | .search _ _ _ _ => true
  | _ => false

def isDb (o : Bytes) (s : Bool) : MonOp α → Bool
  | .db o' _ s' _ _ => decide (o' = o) && (s' == s)
  | _ => false

def isAnyDb : MonOp α → Bool
  | .db _ _ _ _ _ => true
  | _ => false

/-- the two iteration orders of a database call are orders of its two-tag map -/
def ValidOp : MonOp α → Prop
  | .db o _ s σT σC => ValidSched (dbTags o s) σT ∧ ValidSched (dbTags o s) σC
  | _ => True

theorem heads : nSearchesTotal ≠ [] ∧ nCacheHits ≠ [] ∧ nCacheMisses ≠ [] ∧ nDbTotal ≠ [] ∧
    nSearchDuration ≠ [] ∧ nDbDuration ≠ [] ∧
    nSearchesTotal.head? ≠ nCacheHits.head? ∧ nSearchesTotal.head? ≠ nCacheMisses.head? ∧
    nSearchesTotal.head? ≠ nDbTotal.head? ∧ nCacheHits.head? ≠ nDbTotal.head? ∧
    nCacheMisses.head? ≠ nDbTotal.head? ∧ nSearchDuration.head? ≠ nDbDuration.head? ∧
    nCacheHits ≠ nCacheMisses ∧ nCacheMisses ≠ nCacheHits := by decide +kernel

/-! ## what one call does to the series of one identity

  Each `step_*` below is computed by `simp` from the recording functions, `valD_touch` and the facts about
  the monitor's keys collected under `monitor_simp`. -/

omit [Num α] in
theorem count_ite (c : Prop) [Decidable c] (h h' : Hist α) :
    (if c then h else h').count = if c then h.count else h'.count := apply_ite _ _ _ _

theorem count_observe (h : Hist α) (v : α) : (h.observe v).count = h.count + 1 := rfl

attribute [monitor_simp] Monitor.step Monitor.recordSearch Monitor.recordDb Collector.counter Collector.observe
  Collector.gaugeSet Collector.timerObserve valD_touch count_ite count_observe heads key_ne_of_head key_ne_of_head'
  key_search_eq_iff key_notags_eq_iff isSearch isAnySearch isDb

section PerOp
variable (cfg : Cfg α) (op : MonOp α)

theorem step_searchesTotal (b : Bool) :
    Advances cfg (fun c => valD c.counters (metricKey cfg.sorts cfg.sp nSearchesTotal (searchTags b) [tCacheHit]) 0)
      (counterStep · .inc) (isSearch b) op :=
  .of_enabled fun m he => by rcases op with ⟨d, r, _ | _, q⟩ | _ | _ <;> simp [monitor_simp, he]

theorem step_hitMiss (b : Bool) :
    Advances cfg (fun c => valD c.counters (metricKey cfg.sorts cfg.sp (if b then nCacheHits else nCacheMisses) [] []) 0)
      (counterStep · .inc) (isSearch b) op :=
  .of_enabled fun m he => by cases b <;> rcases op with ⟨d, r, _ | _, q⟩ | _ | _ <;> simp [monitor_simp, he]

theorem step_dbTotal (hs : cfg.sorts = true) (o : Bytes) (s : Bool) {σ : List Bytes} (hσ : ValidSched (dbTags o s) σ)
    (hv : ValidOp op) :
    Advances cfg (fun c => valD c.counters (metricKey cfg.sorts cfg.sp nDbTotal (dbTags o s) σ) 0)
      (counterStep · .inc) (isDb o s) op :=
  .of_enabled fun m he => by
    cases op with
    | search d r hit q => cases hit <;> simp [monitor_simp, he]
    | db o' d s' σT σC => simp [monitor_simp, he, hs, key_db_eq_iff cfg.sp nDbTotal hv.2 hσ]
    | enable x => simp [monitor_simp]

theorem step_qlen :
    Advances cfg (fun c => (valD c.hists (metricKey cfg.sorts cfg.sp nQueryLength [] []) (Hist.new cfg.defaultBuckets)).count)
      (· + 1) isAnySearch op :=
  .of_enabled fun m he => by rcases op with ⟨d, r, _ | _, q⟩ | _ | _ <;> simp [monitor_simp, he]

theorem step_searchDuration (b : Bool) :
    Advances cfg (fun c => (valD c.timers (metricKey cfg.sorts cfg.sp nSearchDuration (searchTags b) [tCacheHit])
      (Hist.new cfg.defaultBuckets)).count) (· + 1) (isSearch b) op :=
  .of_enabled fun m he => by rcases op with ⟨d, r, _ | _, q⟩ | _ | _ <;> simp [monitor_simp, he]

theorem step_dbDuration (hs : cfg.sorts = true) (o : Bytes) (s : Bool) {σ : List Bytes} (hσ : ValidSched (dbTags o s) σ)
    (hv : ValidOp op) :
    Advances cfg (fun c => (valD c.timers (metricKey cfg.sorts cfg.sp nDbDuration (dbTags o s) σ)
      (Hist.new cfg.defaultBuckets)).count) (· + 1) (isDb o s) op :=
  .of_enabled fun m he => by
    cases op with
    | search d r hit q => cases hit <;> simp [monitor_simp, he]
    | db o' d s' σT σC => simp [monitor_simp, he, hs, key_db_eq_iff cfg.sp nDbDuration hv.1 hσ]
    | enable x => simp [monitor_simp]

theorem step_nodup (m : Monitor α) (h : (keysOf m.c.counters).Nodup) : (keysOf (m.step cfg op).c.counters).Nodup := by
  cases he : m.enabled
  · rw [step_c_disabled cfg m op he]; exact h
  · rcases op with ⟨d, r, _ | _, q⟩ | _ | _ <;> simp [monitor_simp, he, touch_nodup, h]

end PerOp

omit [Num α] in
theorem countOps_add {p q r : MonOp α → Bool}
    (h : ∀ op, (if p op then 1 else 0) + (if q op then 1 else 0) = (if r op then 1 else 0 : Nat)) :
    ∀ (ops : List (MonOp α)) (en : Bool), countOps p en ops + countOps q en ops = countOps r en ops := by
  intro ops
  induction ops with
  | nil => intro en; rfl
  | cons op rest ih =>
    intro en
    have := ih (nextEnabled en op)
    have := h op
    simp only [countOps]
    cases en
    · simp only [Bool.false_and, Bool.false_eq_true, if_false]; omega
    · simp only [Bool.true_and]; omega

omit [Num α] in
theorem countOps_search_split (ops : List (MonOp α)) (en : Bool) :
    countOps (isSearch true) en ops + countOps (isSearch false) en ops = countOps isAnySearch en ops :=
  countOps_add (fun op => by
    cases op with
    | search d r hit q => cases hit <;> rfl
    | db o d s σT σC => rfl
    | enable b => rfl) ops en

def AllAtomicInc (ts : List Thread) : Prop := ∀ t ∈ ts, ∀ i ∈ t.prog, i = Instr.atomicAdd 1

def remaining (ts : List Thread) : Nat := (ts.map (·.prog.length)).sum

theorem allAtomicInc_cons {t : Thread} {ts : List Thread} :
    AllAtomicInc (t :: ts) ↔ (∀ i ∈ t.prog, i = Instr.atomicAdd 1) ∧ AllAtomicInc ts := List.forall_mem_cons

theorem remaining_cons (t : Thread) (ts : List Thread) : remaining (t :: ts) = t.prog.length + remaining ts := rfl

theorem execThread_atomic (shared : Int) (t : Thread) (h : ∀ i ∈ t.prog, i = Instr.atomicAdd 1) :
    (∀ i ∈ (execThread shared t).2.prog, i = Instr.atomicAdd 1) ∧
    (execThread shared t).1 + (execThread shared t).2.prog.length = shared + t.prog.length := by
  unfold execThread
  cases hp : t.prog with
  | nil => exact ⟨by rw [hp]; exact nofun, by rw [hp]⟩
  | cons i rest =>
    rw [hp] at h
    obtain rfl := h i List.mem_cons_self
    exact ⟨fun j hj => h j (List.mem_cons_of_mem _ hj), by simp only [List.length_cons]; omega⟩

theorem stepThreads_atomic : ∀ (ts : List Thread) (shared : Int) (tid : Nat), AllAtomicInc ts →
    AllAtomicInc (stepThreads shared ts tid).2 ∧
    (stepThreads shared ts tid).1 + remaining (stepThreads shared ts tid).2 = shared + remaining ts
  | [], _, _, h => ⟨h, rfl⟩
  | t :: ts, shared, 0, h => by
    rw [allAtomicInc_cons] at h
    obtain ⟨h1, h2⟩ := execThread_atomic shared t h.1
    rw [stepThreads, remaining_cons, remaining_cons]
    exact ⟨allAtomicInc_cons.mpr ⟨h1, h.2⟩, by omega⟩
  | t :: ts, shared, tid + 1, h => by
    rw [allAtomicInc_cons] at h
    obtain ⟨h1, h2⟩ := stepThreads_atomic ts shared tid h.2
    rw [stepThreads, remaining_cons, remaining_cons]
    exact ⟨allAtomicInc_cons.mpr ⟨h.1, h1⟩, by omega⟩

/-- while every remaining instruction is an atomic increment, value + increments still to be executed stays `c` -/
def AtomicInv (c : Int) (s : Sys) : Prop := AllAtomicInc s.threads ∧ s.shared + remaining s.threads = c

theorem step_atomicInv {c : Int} (s : Sys) (tid : Nat) (h : AtomicInv c s) : AtomicInv c (s.step tid) :=
  have hs := stepThreads_atomic s.threads s.shared tid h.1
  ⟨hs.1, hs.2.trans h.2⟩

theorem init_atomicInv (ks : List Nat) : AtomicInv ks.sum (Sys.init true ks) := by
  have h : AllAtomicInc (Sys.init true ks).threads ∧ remaining (Sys.init true ks).threads = ks.sum := by
    induction ks with
    | nil => exact ⟨nofun, rfl⟩
    | cons k ks ih =>
      have hk : ∀ i ∈ incProg true k, i = Instr.atomicAdd 1 := fun i hi => (List.mem_replicate.mp hi).2
      have hl : (incProg true k).length = k := List.length_replicate
      exact ⟨allAtomicInc_cons.mpr ⟨hk, ih.1⟩, by
        show remaining (_ :: (Sys.init true ks).threads) = _
        rw [remaining_cons, ih.2, List.sum_cons]; exact congrArg (· + ks.sum) hl⟩
  exact ⟨h.1, by rw [h.2]; exact Int.zero_add _⟩

theorem remaining_of_done : ∀ (ts : List Thread), ts.all (·.prog.isEmpty) = true → remaining ts = 0
  | [], _ => rfl
  | t :: ts, h => by
    rw [List.all_cons, Bool.and_eq_true, List.isEmpty_iff] at h
    rw [remaining_cons, remaining_of_done ts h.2, h.1]; rfl

end Wtf.Metrics
