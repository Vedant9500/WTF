import WtfModel.Model.Legacy
import WtfModel.Proofs.C01Search
/-
  C01 for the legacy pipeline search, the recovery searches and the CLI step.  Core Lean only.
-/
namespace Wtf.Legacy
open Filters ScoreOps ScoreLaws Search

variable {S : Type} [ScoreOps S]

/-- the loop body of SearchWithPipelineOptions -/
def pipelineStep (ri : RuneInfo) (score : Nat → S) (po : Bool) (pb : S) (k : Nat) (c : Cmd) : Option S :=
  if po && !isPipeline ri c then none else
  let s := if isPipeline ri c && lt zero pb then mul (score k) pb else score k
  if lt zero s then some s else none

theorem pipelineScan_eq (ri : RuneInfo) (score : Nat → S) (po : Bool) (pb : S) (i : Nat) (db : Db) :
    pipelineScan ri score po pb i db = dbScan (pipelineStep ri score po pb) i db := by
  induction db generalizing i with
  | nil => rfl
  | cons c rest ih =>
    rw [pipelineScan, dbScan_cons, ih, pipelineStep]
    split
    · rfl
    · extract_lets s0 s
      split <;> rfl

theorem pipelineStep_pos {ri : RuneInfo} {score : Nat → S} {po : Bool} {pb : S} {k : Nat} {c : Cmd} {s : S}
    (h : pipelineStep ri score po pb k c = some s) : lt (zero : S) s = true := by
  unfold pipelineStep at h
  split at h
  · cases h
  · exact pos_of_admitted h

theorem searchLegacyPipeline_post [ScoreLaws S] (ri : RuneInfo) (score : Nat → S) (db : Db) (o : Opts S) :
    Post db.length (legacyLimit o.limit) (searchLegacyPipeline ri score db o) := by
  rw [searchLegacyPipeline, pipelineScan_eq]
  exact (cand_dbScan (fun _ _ _ h => pos_nonneg (pipelineStep_pos h)) db).sortDesc.post_take _

theorem searchLegacyPipeline_pos (ri : RuneInfo) (score : Nat → S) (db : Db) (o : Opts S) :
    ∀ x ∈ searchLegacyPipeline ri score db o, lt (zero : S) x.2 = true := by
  intro x hx
  rw [searchLegacyPipeline, pipelineScan_eq] at hx
  obtain ⟨_, _, hf⟩ := mem_dbScan (mem_of_mem_take_sortDesc hx)
  exact pipelineStep_pos hf

omit [ScoreOps S] in
theorem scan_eq (p : Cmd → Bool) (s : S) (i : Nat) (db : Db) :
    scan p s i db = dbScan (fun _ c => if p c then some s else none) i db := by
  induction db generalizing i with
  | nil => rfl
  | cons c rest ih => rw [dbScan_cons, scan, ih]; split <;> rfl

theorem ranked_scan [ScoreLaws S] (p : Cmd → Bool) {s : S} (hs : Nonneg s) (db : Db) : Ranked db.length (scan p s 0 db) := by
  rw [scan_eq]
  have hf : ∀ (c : Cmd) (s' : S), (if p c then some s else none) = some s' → s' = s := by
    intro c s' h
    split at h
    · exact (Option.some.inj h).symm
    · cases h
  refine ⟨cand_dbScan (fun _ c s' h => hf c s' h ▸ hs) db, List.pairwise_of_forall_mem_list fun a ha b hb => ?_⟩
  -- any order of equal scores is non-increasing
  obtain ⟨_, _, ha⟩ := mem_dbScan ha
  obtain ⟨_, _, hb⟩ := mem_dbScan hb
  rw [hf _ _ ha, hf _ _ hb]
  exact lt_irrefl _

omit [ScoreOps S] in
theorem scan_ids_lt (p : Cmd → Bool) (s : S) (db : Db) : ((scan p s 0 db).map (·.1)).Pairwise (· < ·) :=
  scan_eq p s 0 db ▸ dbScan_ids_lt _ db

/-- RecoverFromSearchFailure answers with one of its three scans -/
theorem recover_eq_scan [ScoreLaws S] (ri : RuneInfo) (db : Db) (q : Bytes) :
    ∃ (p : Cmd → Bool) (s : S), Nonneg s ∧ recover ri db q = scan p s 0 db := by
  unfold recover
  dsimp only
  split
  · exact ⟨_, _, ofQ_nonneg _ (by decide) (by decide), rfl⟩
  · split
    · rename_i h
      unfold singleWordSearch at h ⊢
      split at h
      · simp at h
      · exact ⟨_, _, ofQ_nonneg _ (by decide) (by decide), rfl⟩
    · exact ⟨_, _, ofQ_nonneg _ (by decide) (by decide), rfl⟩

omit [ScoreOps S] in
/-- for the limits the CLI passes, `recovered[:Limit]` after `len(recovered) > Limit` is `take` -/
theorem truncate_of_nonneg {rc : List (Nat × S)} {limit : Int} (h : 0 ≤ limit) :
    truncate rc limit = .ok (rc.take limit.toNat) := by
  unfold truncate
  split
  · rw [if_neg (by omega)]
  · rw [List.take_of_length_le (by omega)]

/-- `Limit = 0` included: the recovered answer is then cut to nothing, under an engine limit that is the default -/
theorem cliResults_post [ScoreLaws S] {T : Tuning S} (hT : TuningWF T) {db : Db} {q : Bytes} {o : Opts S}
    (hl : 0 ≤ o.limit) {r : List (Nat × S)} (h : cliResults T db q o = .ok r) :
    Post db.length (effLimit o) r := by
  unfold cliResults at h
  split at h
  · cases h
  · rename_i r0 hs
    have hp0 := search_post hT hs
    split at h
    · cases h; exact hp0
    · dsimp only at h
      split at h
      · -- the recovered answer: a filtered scan, cut at the limit in force
        obtain ⟨p, s, hs, e⟩ := recover_eq_scan (S := S) T.ri db q
        rw [truncate_of_nonneg hl, e] at h
        cases h
        rw [effLimit]
        split
        · rw [Int.le_antisymm ‹_› hl]
          exact post_nil _ _
        · exact ((ranked_scan p hs db).sublist List.filter_sublist).post_take _
      · cases h; exact hp0

/-- the recovered list is cut with a Go slice expression: no panic for the limits the CLI passes -/
theorem cliResults_no_slice_panic (T : Tuning S) (db : Db) (q : Bytes) (o : Opts S) (hl : 0 ≤ o.limit) :
    cliResults T db q o ≠ .error .sliceBounds := by
  unfold cliResults
  split
  · nofun
  · split
    · nofun
    · dsimp only
      split
      · rw [truncate_of_nonneg hl]; nofun
      · nofun

theorem cliLimit_pos {cd flag l : Int} (hcd : 0 < cd) (h : cliLimit cd flag = some l) : 0 < l := by
  unfold cliLimit at h
  split at h
  · cases h
  · extract_lets v at h
    rw [← Option.some.inj h]
    split
    · assumption
    · exact hcd

end Wtf.Legacy
