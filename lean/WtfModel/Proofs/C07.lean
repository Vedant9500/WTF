import WtfModel.Proofs.SearchPaths
import WtfModel.Proofs.FuzzyAccept
import WtfModel.Proofs.Utf8
import WtfModel.Proofs.FuzzyFind
/-
  Helper lemmas for C07 (and the panic-freedom part C10 needs): the rune equality of the matcher, what
  `matchOne` / `findNoSort` return on NUL-free targets (from the refinement `matchOne_verdict`, Proofs/FuzzyAccept.lean,
  and the closed form of `FindFromNoSort`, Proofs/FuzzyFind.lean), what the fallback returns (from its closed form
  `fuzzySearch_eq`, Proofs/Fallback.lean).
-/
namespace Wtf.C07
open Wtf.Filters Wtf.Search Wtf.Fuzzy Wtf.Utf8

/-- table condition: no listed code point folds to 0 (U+0000 is alone in its SimpleFold orbit).  Validated
    on every rune table the harness dumps, and for all 1,114,112 code points by `wtfverif tool c07unicode`. -/
def FoldOK (ri : RuneInfo) : Prop := ∀ f ∈ ri.table, f.foldRep ≠ 0

theorem eqFold_symm (ri : RuneInfo) (a b : Nat) : ri.eqFold a b = ri.eqFold b a := by
  unfold RuneInfo.eqFold
  rw [Bool.beq_comm (a := a), Bool.beq_comm (a := ri.foldRep a)]

theorem foldRep_ne_zero (ri : RuneInfo) (h : FoldOK ri) (c : Nat) (hc : c ≠ 0) : ri.foldRep c ≠ 0 := by
  unfold RuneInfo.foldRep
  split
  · split
    · rename_i h2; simp only [Bool.and_eq_true, decide_eq_true_eq] at h2; omega
    · exact hc
  · split
    · rename_i f hf
      unfold RuneInfo.find at hf
      exact h f (List.mem_of_find?_eq_some hf)
    · exact hc

theorem foldRep_zero (ri : RuneInfo) : ri.foldRep 0 = 0 := by
  unfold RuneInfo.foldRep; simp

theorem eqFold_zero (ri : RuneInfo) (h : FoldOK ri) (c : Nat) (hc : c ≠ 0) : ri.eqFold 0 c = false := by
  unfold RuneInfo.eqFold
  rw [foldRep_zero]
  have h1 : (0 == c) = false := by simpa using (Ne.symm hc)
  have h2 : (0 == ri.foldRep c) = false := by simpa using (Ne.symm (foldRep_ne_zero ri h c hc))
  simp [h1, h2]

theorem fuzzyTarget_runes_ne_zero (c : Cmd) : ∀ r ∈ runes (fuzzyTarget c), r ≠ 0 :=
  runes_ne_zero _ (fuzzyTarget_bytes_ne_zero c)

theorem matchOne_accepts (ri : RuneInfo) (hf : FoldOK ri) (p t : Bytes) (hp : p ≠ []) (ht : ∀ c ∈ (runes t).tail, c ≠ 0) :
    (matchOne ri p t).map Option.isSome = .ok (subseqFold ri.eqFold (runes p) (runes t)) := by
  rw [matchOne_verdict, arun_accepts (eqFold_symm ri) (eqFold_zero ri hf) _ _ (runes_ne_nil p hp) ht]

theorem matchOne_spec (ri : RuneInfo) (hf : FoldOK ri) (p t : Bytes) (hp : p ≠ []) (ht : ∀ c ∈ runes t, c ≠ 0) :
    ∃ r, matchOne ri p t = .ok r ∧ r.isSome = subseqFold ri.eqFold (runes p) (runes t) :=
  map_eq_ok (matchOne_accepts ri hf p t hp (fun c hc => ht c (List.mem_of_mem_tail hc)))

theorem matchOne_some_iff (ri : RuneInfo) (hf : FoldOK ri) (p t : Bytes) (hp : p ≠ []) (ht : ∀ c ∈ runes t, c ≠ 0) :
    (∃ m, matchOne ri p t = .ok (some m)) ↔ subseqFold ri.eqFold (runes p) (runes t) = true := by
  obtain ⟨r, hr, hsome⟩ := matchOne_spec ri hf p t hp ht
  rw [← hsome, hr]
  cases r with
  | none => simp
  | some m => simp

/-- the matcher over the database's fuzzy targets never panics (the NUL guard) -/
theorem findNoSort_targets_ok (ri : RuneInfo) (hf : FoldOK ri) (db : Db) (nq : Bytes) :
    ∃ ms, findNoSort ri nq (db.map fuzzyTarget) = .ok ms := by
  by_cases hq : nq = []
  · exact ⟨[], by simp [hq, findNoSort]⟩
  · refine ⟨_, (findNoSort_ok_iff ri nq hq _ _).mpr ⟨fun t ht => ?_, rfl⟩⟩
    obtain ⟨c, _, rfl⟩ := List.mem_map.mp ht
    obtain ⟨r, hr, _⟩ := matchOne_spec ri hf nq (fuzzyTarget c) hq (fuzzyTarget_runes_ne_zero c)
    exact ⟨r, hr⟩

theorem mem_findNoSort_targets {ri : RuneInfo} {db : Db} {nq : Bytes} {ms : List (Nat × Int)}
    (h : findNoSort ri nq (db.map fuzzyTarget) = .ok ms) (k : Nat) (sc : Int) :
    (k, sc) ∈ ms ↔ nq ≠ [] ∧ ∃ c idxs, db[k]? = some c ∧ matchOne ri nq (fuzzyTarget c) = .ok (some (sc, idxs)) := by
  by_cases hq : nq = []
  · subst hq
    simp only [findNoSort, List.isEmpty_nil, if_true, Except.ok.injEq] at h
    simp [← h]
  · obtain ⟨_, rfl⟩ := (findNoSort_ok_iff ri nq hq _ _).mp h
    simp only [mem_hits, Nat.zero_le, true_and, Nat.sub_zero, List.getElem?_map, Option.map_eq_some_iff, hq,
      ne_eq, not_false_eq_true]
    exact ⟨fun ⟨_, idxs, ⟨c, hc, rfl⟩, h⟩ => ⟨c, idxs, hc, h⟩, fun ⟨c, idxs, hc, h⟩ => ⟨_, idxs, ⟨c, hc, rfl⟩, h⟩⟩

variable {S : Type} [ScoreOps S]
variable (T : Tuning S)

/-- the library's final sort (`sort.Stable` with `Less = Score >=`): a permutation, best score first.  That `Less` is not
    a strict order, so the documented contract of `sort.Stable` does not give this: it is proved for the modelled algorithm
    (`sortOK_of_goStable`, Props/C07c.lean), and checked on every generated case: the driver accepts Go's order only if it
    is a score-sorted permutation of the model's own matches, and the C07 monitor re-checks the order of the real answer. -/
def SortOK (T : Tuning S) : Prop :=
  ∀ ms, (T.fuzzySort ms).Perm ms ∧ (T.fuzzySort ms).Pairwise (fun a b => a.2 ≥ b.2)

theorem fuzzySearch_ok (hf : FoldOK T.ri) (db : Db) (nq : Bytes) (o : Opts S) (limit : Nat) :
    ∃ r, fuzzySearch T db nq o limit = .ok r := by
  obtain ⟨ms, hms⟩ := findNoSort_targets_ok T.ri hf db nq
  exact ⟨_, by rw [fuzzySearch_eq, hms]; rfl⟩

theorem fuzzySearch_genuine (hf : FoldOK T.ri) (hs : SortOK T) (db : Db) (nq : Bytes) (o : Opts S)
    (limit : Nat) {r : List (Nat × S)} (h : fuzzySearch T db nq o limit = .ok r) :
    ∀ x ∈ r, ∃ c sc idxs, db[x.1]? = some c ∧ nq ≠ [] ∧
      matchOne T.ri nq (fuzzyTarget c) = .ok (some (sc, idxs)) ∧
      subseqFold T.ri.eqFold (runes nq) (runes (fuzzyTarget c)) = true ∧
      (o.fuzzyThreshold ≠ 0 → o.fuzzyThreshold ≤ sc) ∧ x.2 = normalizeFuzzy sc ∧
      passes T.ri T.host o.filter c = true := by
  obtain ⟨ms, hms, rfl⟩ := fuzzySearch_inv h
  intro x hx
  obtain ⟨⟨i, sc⟩, hm, rfl⟩ := List.mem_map.mp hx
  obtain ⟨⟨c, hc, hp⟩, hthr⟩ := kept_of_mem_fuzzyKept hm
  obtain ⟨hq, c', idxs, hc', hmatch⟩ :=
    (mem_findNoSort_targets hms i sc).mp ((hs ms).1.mem_iff.mp ((fuzzyKept_sublist T db o limit ms).subset hm))
  rw [hc] at hc'; injection hc' with hc'; subst hc'
  exact ⟨c, sc, idxs, hc, hq, hmatch,
    (matchOne_some_iff T.ri hf nq _ hq (fuzzyTarget_runes_ne_zero c)).mp ⟨_, hmatch⟩, hthr, rfl, hp⟩

theorem fuzzySearch_complete (hf : FoldOK T.ri) (hs : SortOK T) (db : Db) (nq : Bytes) (o : Opts S)
    (limit : Nat) (hl : 1 ≤ limit) (h0 : o.fuzzyThreshold = 0) (hq : nq ≠ [])
    (hd : ∃ (i : Nat) (c : Cmd), db[i]? = some c ∧ passes T.ri T.host o.filter c = true ∧
      subseqFold T.ri.eqFold (runes nq) (runes (fuzzyTarget c)) = true) :
    ∃ r, fuzzySearch T db nq o limit = .ok r ∧ r ≠ [] := by
  obtain ⟨i, c, hc, hp, hsub⟩ := hd
  obtain ⟨ms, hms⟩ := findNoSort_targets_ok T.ri hf db nq
  obtain ⟨m, hm⟩ := (matchOne_some_iff T.ri hf nq _ hq (fuzzyTarget_runes_ne_zero c)).mpr hsub
  -- the matching command is reported by the library, survives the sort and the three tests; the cut keeps ≥ 1
  have hmem : (i, m.1) ∈ (T.fuzzySort ms).filter (fun m => decide (Kept T db o m)) :=
    List.mem_filter.mpr ⟨(hs ms).1.mem_iff.mpr ((mem_findNoSort_targets hms i m.1).mpr ⟨hq, c, m.2, hc, hm⟩),
      decide_eq_true ⟨⟨c, hc, hp⟩, fun h => absurd h0 h⟩⟩
  refine ⟨_, by rw [fuzzySearch_eq, hms]; rfl, ?_⟩
  intro h
  rw [List.map_eq_nil_iff, fuzzyKept, List.take_eq_nil_iff] at h
  rcases h with h | h
  · omega
  · rw [h] at hmem; cases hmem

end Wtf.C07
