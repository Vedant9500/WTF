import WtfModel.Proofs.C03Index
import WtfModel.Proofs.SearchBasic
/-
  C03: the BM25F accumulation over the inverted index (`initialScores`, mirrors calculateInitialScores /
  processPostingsForTerm / termBM25F) equals, entry by entry and with the same order of floating-point operations,
  the score recomputed by scanning the commands' texts.  No law about the score type is used (the equality is
  syntactic, so it holds for IEEE floats as well as for an ordered field).
-/
namespace Wtf.Search
open Text Index Filters ScoreOps

variable {S : Type} [ScoreOps S]
variable (T : Tuning S) (db : Db)

/-- the term passes the `idf < minIDF` gate of calculateInitialScores (idf recomputed from the
    document frequency counted by scanning) -/
def termLive (T : Tuning S) (db : Db) (t : Token) : Bool :=
  !(lt (T.idf db.length (dfOf db t)) T.params.minIDF)

/-- contribution of one query term to one command: `(idf * boost) * Σ_fields fieldBM25`, every
    ingredient recomputed from the texts: df by scanning, field lengths and term frequencies by
    tokenising the command's fields, averages from the summed field lengths -/
def scanContrib (T : Tuning S) (db : Db) (tb : List (Bytes × S)) (c : Cmd) (t : Token) : S :=
  mul (mul (T.idf db.length (dfOf db t)) (boostOf tb t))
    (termBM25F T.params db.length (sumLens (db.map docLens)) (docLens c) (tfOf c t))

/-- one step of the left fold over the query terms (in order, with multiplicity); a fresh entry
    starts as `0 + x`, as in Go's `s := scores[id]; s += x` -/
def scanStep (T : Tuning S) (db : Db) (tb : List (Bytes × S)) (c : Cmd) (acc : Option S) (t : Token) : Option S :=
  if containsTerm c t && termLive T db t then some (add (acc.getD zero) (scanContrib T db tb c t)) else acc

/-- scan score of one command (none: no live query term occurs in it) -/
def scanScore (T : Tuning S) (db : Db) (tb : List (Bytes × S)) (terms : List Token) (c : Cmd) : Option S :=
  terms.foldl (scanStep T db tb c) none

theorem scanStep_live {t : Token} (h : termLive T db t = true) (tb : List (Bytes × S)) (c : Cmd) (acc : Option S) :
    scanStep T db tb c acc t = if containsTerm c t then some (add (acc.getD zero) (scanContrib T db tb c t)) else acc := by
  rw [scanStep, h, Bool.and_true]

/-- the entry of document `d` in the scan score map: only eligible documents have one -/
def scanEntry (T : Tuning S) (db : Db) (o : Opts S) (terms : List Token) (d : Nat) : Option S :=
  match db[d]? with
  | some c => if passes T.ri T.host o.filter c then scanScore T db o.boosts terms c else none
  | none => none

def scanScores (T : Tuning S) (db : Db) (o : Opts S) (terms : List Token) : List (Nat × S) :=
  (List.range db.length).filterMap (fun d => (scanEntry T db o terms d).map (fun s => (d, s)))

theorem scanScore_isSome (tb : List (Bytes × S)) (terms : List Token) (c : Cmd) :
    (scanScore T db tb terms c).isSome = true ↔ ∃ t ∈ terms, containsTerm c t = true ∧ termLive T db t = true := by
  have h := foldl_or_exists (scanStep T db tb c) (fun acc => acc.isSome = true)
    (fun t => containsTerm c t = true ∧ termLive T db t = true)
    (fun acc t => by unfold scanStep; split <;> simp_all) terms none
  simpa [scanScore] using h

theorem lookup_foldl_addScore {α : Type} (d : α → Nat) (x : α → S) (l : List α) (k : Nat) :
    List.lookup k (l.foldl (fun m a => addScore m (d a) (x a)) []) =
      l.foldl (fun acc a => if k = d a then some (add (acc.getD zero) (x a)) else acc) none :=
  (List.foldl_rel (a := []) (r := fun m acc => KeysSorted m ∧ List.lookup k m = acc) ⟨List.Pairwise.nil, rfl⟩
    fun a _ m acc h => ⟨keysSorted_addScore h.1 _ _, by
      rw [lookup_addScore h.1, ← h.2]
      split
      · subst ‹k = d a›; rfl
      · rfl⟩).2

omit [ScoreOps S] in
theorem foldl_at_key {α β : Type} (key : α → Nat) (F : β → α → β) (k : Nat) (q : α → Bool) {l : List α}
    (hnd : (l.map key).Nodup) (hq : ∀ a ∈ l, k = key a → q a = true) (b : β) :
    (l.filter q).foldl (fun acc a => if k = key a then F acc a else acc) b =
      match l.find? (key · == k) with
      | some a => F b a
      | none => b := by
  induction l generalizing b with
  | nil => rfl
  | cons a rest ih =>
    rw [List.map_cons, List.nodup_cons] at hnd
    have ih := ih hnd.2 fun a ha => hq a (List.mem_cons_of_mem _ ha)
    rw [List.find?_cons]
    by_cases hk : k = key a
    · have hnone : rest.find? (key · == k) = none :=
        List.find?_eq_none.mpr fun q hq hqk => hnd.1 (hk ▸ beq_iff_eq.mp hqk ▸ List.mem_map_of_mem hq)
      rw [List.filter_cons_of_pos (hq a List.mem_cons_self hk), List.foldl_cons, if_pos hk, ih, hnone, hk, beq_self_eq_true]
    · rw [beq_false_of_ne (Ne.symm hk), ← ih b, List.filter_cons]
      split
      · rw [List.foldl_cons, if_neg hk]
      · rfl

/-- **index = scan for the scores**: every entry of the score map computed through the index is the
    scan entry, for any boost table -/
theorem lookup_initialScores (idx : Index) (hidx : BuildSpec db idx) (o : Opts S)
    (pq : Option (NlpOut S)) (terms : List Token) (d : Nat) :
    List.lookup d (initialScores T db idx o pq terms) =
      match db[d]? with
      | some c => if passes T.ri T.host o.filter c then scanScore T db (termBoosts o pq) terms c else none
      | none => none := by
  have hno : ¬ Eligible T db o d → List.lookup d (initialScores T db idx o pq terms) = none := fun h =>
    Option.not_isSome_iff_eq_none.mp fun hs =>
      h ((initialScores_inv T db idx o pq terms).2 d ((lookup_isSome_iff_mem _ _).mp hs))
  cases hc : db[d]? with
  | none => exact hno fun ⟨c, hc', _⟩ => by rw [hc] at hc'; cases hc'
  | some c =>
    dsimp only
    by_cases hp : passes T.ri T.host o.filter c = true
    · -- term by term: the postings of `t` that take part add to the entry of `d` what the scan adds for `t`
      rw [if_pos hp, initialScores_eq_hits, lookup_foldl_addScore, hits, List.foldl_flatMap, scanScore]
      refine congrArg (List.foldl · none terms) (funext fun acc => funext fun t => ?_)
      rw [hidx.postings_getD, hidx.df_getD, hidx.n, scanStep, termLive]
      by_cases hlive : lt (T.idf db.length (dfOf db t)) T.params.minIDF = true
      · rw [if_pos hlive, hlive, Bool.not_true, Bool.and_false, if_neg Bool.false_ne_true]; rfl
      · -- among the postings of `t` the gate lets the one of `d` through
        rw [if_neg hlive, List.foldl_map,
          foldl_at_key (·.doc) (fun x p => some (add (x.getD zero) (contrib T idx (termBoosts o pq) t p))) d _
            (nodup_scanPostings db t) (fun p _ hk => by rw [← hk, hc, Option.any_some, hp]), find_scanPostings, hc]
        have hl : (db.map docLens).getD d {} = docLens c := by simp [List.getD, hc]
        by_cases hct : containsTerm c t = true
        · simp only [hct, hlive, ↓reduceIte, Bool.not_false, Bool.and_self, contrib, scanContrib, hidx.n, hidx.lens, hl,
            hidx.df_getD]
        · simp only [hct, Bool.false_and, Bool.false_eq_true, ↓reduceIte]
    · rw [if_neg hp]
      exact hno fun ⟨c', hc', hp'⟩ => by rw [hc] at hc'; cases hc'; exact hp hp'

omit [ScoreOps S] in
theorem lookup_filterMap_keys (f : Nat → Option S) (l : List Nat) (k : Nat) :
    List.lookup k (l.filterMap (fun d => (f d).map (fun s => (d, s)))) = if k ∈ l then f k else none := by
  induction l with
  | nil => rfl
  | cons a rest ih =>
    by_cases hka : k = a
    · subst hka; cases hf : f k <;> simp [hf, ih]
    · cases hf : f a <;> simp [hf, ih, lookup_cons_if, hka]

omit [ScoreOps S] in
theorem keys_filterMap_keys (f : Nat → Option S) (l : List Nat) :
    (l.filterMap (fun d => (f d).map (fun s => (d, s)))).map (·.1) = l.filter (fun d => (f d).isSome) := by
  induction l with
  | nil => rfl
  | cons a rest ih => cases hf : f a <;> simp [hf, ih]

/-- **index = scan for the scores**, as one equation between lists: same entries, same order, same
    arithmetic expression in every entry -/
theorem initialScores_eq_scanScores (idx : Index) (hidx : BuildSpec db idx) (o : Opts S)
    (terms : List Token) :
    initialScores T db idx o none terms = scanScores T db o terms := by
  apply keysSorted_ext (initialScores_inv T db idx o none terms).1
  · -- the keys of the scan map are a sub-list of `0, 1, …`
    rw [KeysSorted, scanScores, keys_filterMap_keys]
    exact List.pairwise_lt_range.sublist List.filter_sublist
  intro k
  rw [lookup_initialScores T db idx hidx, scanScores, lookup_filterMap_keys, scanEntry]
  cases hdb : db[k]? with
  | none => simp
  | some c => simp [(List.getElem?_eq_some_iff.mp hdb).1, termBoosts]

end Wtf.Search
