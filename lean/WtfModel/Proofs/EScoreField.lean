import Mathlib.Algebra.Order.Field.Basic
import WtfModel.Basic.EScoreOps

/-!
  The proof-side instance of `EScoreOps`: any linearly ordered field `S`, with a square-root
  *operation* supplied through `HasSqrt` (data) and its two laws through `SqrtLaws` (a `Prop`).
  `ℝ` with `Real.sqrt` is an instance (`Proofs/ScoreReal.lean`).
  Over a field there is no NaN: `eq` is decidable equality, so `isNaN` is constantly `false`.
-/
namespace Wtf

class HasSqrt (S : Type) where
  sqrt : S → S

section
variable {S : Type} [Field S] [LinearOrder S] [HasSqrt S]

instance fieldOps : EScoreOps S where
  zero := 0
  one := 1
  add := (· + ·)
  sub := (· - ·)
  mul := (· * ·)
  div := (· / ·)
  sqrt := HasSqrt.sqrt
  le a b := decide (a ≤ b)
  lt a b := decide (a < b)
  eq a b := decide (a = b)
  ofNat n := (n : S)
  ofQ q := (q.num : S) / (q.den : S)

class SqrtLaws (S : Type) [Field S] [LinearOrder S] [HasSqrt S] : Prop where
  sqrt_nonneg : ∀ x : S, 0 ≤ HasSqrt.sqrt x
  sqrt_mul_self : ∀ x : S, 0 ≤ x → HasSqrt.sqrt x * HasSqrt.sqrt x = x

@[simp] theorem ops_zero : (EScoreOps.zero : S) = 0 := rfl
@[simp] theorem ops_one : (EScoreOps.one : S) = 1 := rfl
@[simp] theorem ops_add (a b : S) : EScoreOps.add a b = a + b := rfl
@[simp] theorem ops_sub (a b : S) : EScoreOps.sub a b = a - b := rfl
@[simp] theorem ops_mul (a b : S) : EScoreOps.mul a b = a * b := rfl
@[simp] theorem ops_div (a b : S) : EScoreOps.div a b = a / b := rfl
@[simp] theorem ops_sqrt (a : S) : EScoreOps.sqrt a = HasSqrt.sqrt a := rfl
@[simp] theorem ops_le (a b : S) : EScoreOps.le a b = decide (a ≤ b) := rfl
@[simp] theorem ops_lt (a b : S) : EScoreOps.lt a b = decide (a < b) := rfl
@[simp] theorem ops_eq (a b : S) : EScoreOps.eq a b = decide (a = b) := rfl
@[simp] theorem ops_ge (a b : S) : EScoreOps.ge a b = decide (b ≤ a) := rfl
@[simp] theorem ops_gt (a b : S) : EScoreOps.gt a b = decide (b < a) := rfl
@[simp] theorem ops_isNaN (a : S) : EScoreOps.isNaN a = false := by simp [EScoreOps.isNaN]
@[simp] theorem ops_ofNat (n : Nat) : (EScoreOps.ofNat n : S) = (n : S) := rfl
theorem ops_ofQ (q : Q) : (EScoreOps.ofQ q : S) = (q.num : S) / (q.den : S) := rfl

end
end Wtf
