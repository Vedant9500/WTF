import WtfModel.Model.ConcLru
import WtfModel.Proofs.Conc
import WtfModel.Proofs.Lru

/-! C11 for the LRU: the generic sequential run of `Conc`, instantiated with `Lru.step`, is `Lru.run`; what a hit can return
    in a legal sequential run.  Core Lean only. -/
namespace Wtf.ConcLru
open Wtf.Conc Wtf.Lru

variable {κ ν : Type} [DecidableEq κ]

theorem runSeq_eq_run (s : State κ ν) (h : List (Int × Op κ ν)) :
    runSeq (lruSpec (κ := κ) (ν := ν)).step s h = Lru.run s h := by
  induction h generalizing s with
  | nil => rfl
  | cons x xs ih =>
    obtain ⟨now, op⟩ := x
    have ih' := ih (step s now op).1
    simp only [lruSpec] at ih'
    simp only [runSeq, Lru.run, lruSpec, ih']

/-! ### what a cached value can be

  If every `put k v` stores `v = f k` (the cached search stores the result of the search that the key
  stands for), then every successful `get k` returns `f k`, in every sequential run. -/

def ValOK (f : κ → ν) (s : State κ ν) : Prop := ∀ e ∈ s.entries, e.val = f e.key

def PutsAgree (f : κ → ν) : Op κ ν → Prop
  | .put k v => v = f k
  | _ => True

theorem step_valok (f : κ → ν) {s : State κ ν} (h : ValOK f s) (now : Int) (op : Op κ ν)
    (hop : PutsAgree f op) :
    ValOK f (step s now op).1 ∧ ∀ k v, op = .get k → (step s now op).2 = .val (some v) → v = f k := by
  constructor
  · intro e' he'
    cases op with
    | get k =>
      obtain ⟨e, he, heq⟩ := mem_get he'
      rw [heq]; exact h e he
    | put k v =>
      rcases mem_put he' with ⟨he, _⟩ | ⟨hk, hv, _⟩
      · exact h e' he
      · rw [hv, hk]; exact hop
    | delete k => exact h e' (mem_delete.mp he').1
    | clear => exact nomatch he'
    | cleanup => exact h e' (mem_cleanup he')
    | size | stats | keys => exact h e' he'
  · intro k v hk hv
    subst hk
    obtain ⟨e, he, hek, hev, _⟩ := get_some (Out.val.inj hv)
    rw [← hev, ← hek]; exact h e he

theorem legal_gets_agree (f : κ → ν) {s : State κ ν} (h : ValOK f s) (w : List (Rec (Int × Op κ ν) (Out κ ν)))
    (hleg : (Lru.run s (w.map (·.op))).2 = w.map (·.out)) (hp : ∀ r ∈ w, PutsAgree f r.op.2) :
    ∀ r ∈ w, ∀ k v, r.op.2 = .get k → r.out = .val (some v) → v = f k := by
  induction w generalizing s with
  | nil => intro r hr; cases hr
  | cons a w ih =>
    have hs := step_valok f h a.op.1 a.op.2 (hp a (List.mem_cons_self ..))
    simp only [List.map_cons, Lru.run, List.cons.injEq] at hleg
    intro r hr k v hk hv
    rcases List.mem_cons.mp hr with rfl | hr
    · exact hs.2 k v hk (hleg.1.trans hv)
    · exact ih hs.1 hleg.2 (fun y hy => hp y (List.mem_cons_of_mem _ hy)) r hr k v hk hv

end Wtf.ConcLru
