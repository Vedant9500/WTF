import Mathlib.Algebra.Order.Field.Basic
import Mathlib.Tactic.Ring
import WtfModel.Model.Embedding
import WtfModel.Proofs.EScoreField

/-!
  Helper lemmas for C19 about `cosine` and the two parts of `semanticStage`, `boostOne` and `sortDesc`.
  * law-parametric lemmas over a bare `EScoreOps` (symmetry needs only commutativity of `mul`);
  * order lemmas over any linearly ordered field (`fieldOps`).  Cauchy–Schwarz is an invariant of the
    accumulation loop itself (no reassociation of the sums): the quadratic form with coefficients
    `(normA, dot, normB)` stays positive semidefinite (`PSD`), and the range of the quotient is that
    form evaluated at `(√normB, ∓√normA)`.
-/
set_option linter.unusedSectionVars false

namespace Wtf.Embedding

section Symm
variable {S : Type} [EScoreOps S]
open EScoreOps

theorem cosAcc_swap (hmul : ∀ x y : S, mul x y = mul y x) :
    ∀ (a b : List S) (d na nb : S),
      cosAcc b a (d, nb, na) = ((cosAcc a b (d, na, nb)).1, (cosAcc a b (d, na, nb)).2.2, (cosAcc a b (d, na, nb)).2.1)
  | [], [], _, _, _ => by simp [cosAcc]
  | [], _ :: _, _, _, _ => by simp [cosAcc]
  | _ :: _, [], _, _, _ => by simp [cosAcc]
  | x :: as, y :: bs, d, na, nb => by
    simp only [cosAcc]
    rw [hmul y x]
    exact cosAcc_swap hmul as bs _ _ _

theorem cosine_symm (hmul : ∀ x y : S, mul x y = mul y x) (a b : List S) : cosine a b = cosine b a := by
  unfold cosine
  by_cases hl : a.length = b.length
  · have h := cosAcc_swap hmul a b zero zero zero
    simp only [h, hl, hmul (sqrt (cosAcc a b (zero, zero, zero)).2.2), Bool.or_comm (eq (cosAcc a b (zero, zero, zero)).2.2 zero)]
  · have hl' : ¬ b.length = a.length := fun h => hl h.symm
    simp [hl, hl']

/-- The clamp needs no order, only `lt` evaluated at the two bounds: these three facts hold of IEEE floats, whose `lt` is not
    the `<` of a linear order (neither of `0.0`, `-0.0` is below the other). -/
theorem clampCos_range (h1 : lt (one : S) one = false) (hn : lt (negOne : S) negOne = false)
    (h1n : lt (one : S) negOne = false) (x : S) :
    (isNaN x = false → lt (clampCos x) negOne = false ∧ lt one (clampCos x) = false) ∧
    (isNaN x = true → clampCos x = zero) := by
  unfold clampCos
  refine ⟨fun hx => ?_, fun hx => if_pos hx⟩
  rw [if_neg (ne_true_of_eq_false hx)]
  split
  · exact ⟨h1n, h1⟩
  · rename_i h1
    split
    · exact ⟨hn, h1n⟩
    · rename_i h2
      exact ⟨eq_false_of_ne_true h2, eq_false_of_ne_true h1⟩

end Symm

section Field
variable {S : Type} [Field S] [LinearOrder S] [IsStrictOrderedRing S] [HasSqrt S]

/-- invariant of the accumulation loop: the quadratic form `na·s² + 2·d·s·t + nb·t²` of the prefix read so far
    is positive semidefinite (it is `Σ (aᵢ·s + bᵢ·t)²`); Cauchy–Schwarz is its discriminant -/
def PSD (acc : S × S × S) : Prop := ∀ s t : S, 0 ≤ acc.2.1 * (s * s) + 2 * acc.1 * (s * t) + acc.2.2 * (t * t)

theorem PSD_zero : PSD ((0 : S), (0 : S), (0 : S)) := by
  intro s t
  simp

theorem PSD_step {d na nb : S} (h : PSD (d, na, nb)) (a b : S) : PSD (d + a * b, na + a * a, nb + b * b) := by
  intro s t
  have e : (na + a * a) * (s * s) + 2 * (d + a * b) * (s * t) + (nb + b * b) * (t * t)
      = (na * (s * s) + 2 * d * (s * t) + nb * (t * t)) + (a * s + b * t) * (a * s + b * t) := by ring
  rw [e]
  exact add_nonneg (h s t) (mul_self_nonneg _)

theorem cosAcc_PSD (a b : List S) (acc : S × S × S) (h : PSD acc) : PSD (cosAcc a b acc) := by
  fun_induction cosAcc a b acc with
  | case1 x as y bs d na nb ih => exact ih (PSD_step h x y)
  | case2 => exact h

/-- Cauchy–Schwarz from the form: with `r = x·y` its value at `(y, ∓x)` is `2·r·(r ∓ d)` -/
theorem PSD_quotient {d x y : S} (h : PSD (d, x * x, y * y)) (hr : 0 < x * y) : -1 ≤ d / (x * y) ∧ d / (x * y) ≤ 1 := by
  have hm : 0 ≤ 2 * (x * y) * (x * y - d) := by
    have e : x * x * (y * y) + 2 * d * (y * -x) + y * y * (-x * -x) = 2 * (x * y) * (x * y - d) := by ring
    exact e ▸ h y (-x)
  have hp : 0 ≤ 2 * (x * y) * (x * y + d) := by
    have e : x * x * (y * y) + 2 * d * (y * x) + y * y * (x * x) = 2 * (x * y) * (x * y + d) := by ring
    exact e ▸ h y x
  rw [mul_nonneg_iff_of_pos_left (mul_pos two_pos hr)] at hm hp
  constructor
  · rw [le_div_iff₀ hr, neg_one_mul, neg_le_iff_add_nonneg']
    exact hp
  · rw [div_le_iff₀ hr, one_mul]
    exact sub_nonneg.mp hm

theorem quotient_range [SqrtLaws S] {d na nb : S} (h : PSD (d, na, nb)) (ha : na ≠ 0) (hb : nb ≠ 0) :
    -1 ≤ d / (HasSqrt.sqrt na * HasSqrt.sqrt nb) ∧ d / (HasSqrt.sqrt na * HasSqrt.sqrt nb) ≤ 1 := by
  have hx := SqrtLaws.sqrt_mul_self na (by simpa using h 1 0)
  have hy := SqrtLaws.sqrt_mul_self nb (by simpa using h 0 1)
  rw [← hx] at ha
  rw [← hy] at hb
  rw [← hx, ← hy] at h
  exact PSD_quotient h (mul_pos (lt_of_le_of_ne (SqrtLaws.sqrt_nonneg na) (Ne.symm (mul_self_ne_zero.mp ha)))
    (lt_of_le_of_ne (SqrtLaws.sqrt_nonneg nb) (Ne.symm (mul_self_ne_zero.mp hb))))

theorem clampCos_id {c : S} (h1 : -1 ≤ c) (h2 : c ≤ 1) : clampCos c = c := by
  unfold clampCos negOne
  have : ¬ (1 < c) := not_lt.mpr h2
  have : ¬ (c < -1) := not_lt.mpr h1
  simp [*]

/-- the quotient is in range, so the clamp and the NaN rule are idle: `cosine` is the plain quotient -/
theorem cosine_spec [SqrtLaws S] (a b : List S) : (-1 ≤ cosine a b ∧ cosine a b ≤ 1) ∧ cosine a b = cosineRaw a b := by
  unfold cosine cosineRaw
  split
  · exact ⟨by simp, rfl⟩
  · dsimp only
    split
    · exact ⟨by simp, rfl⟩
    · rename_i hz
      simp only [ops_eq, ops_zero, Bool.or_eq_true, decide_eq_true_eq, not_or] at hz
      have := quotient_range (cosAcc_PSD a b _ PSD_zero) hz.1 hz.2
      have hc := clampCos_id this.1 this.2
      exact ⟨hc.symm ▸ this, hc⟩

theorem cosine_range [SqrtLaws S] (a b : List S) : -1 ≤ cosine a b ∧ cosine a b ≤ 1 := (cosine_spec a b).1

theorem cosAcc_zero_left (a b : List S) (acc : S × S × S) (h : ∀ x ∈ a, x = 0) : (cosAcc a b acc).2.1 = acc.2.1 := by
  fun_induction cosAcc a b acc with
  | case1 x as y bs d na nb ih =>
    obtain ⟨hx, has⟩ := List.forall_mem_cons.mp h
    rw [ih has, hx]
    show na + 0 * 0 = na
    rw [mul_zero, add_zero]
  | case2 => rfl

theorem cosine_zero_left (a b : List S) (h : ∀ x ∈ a, x = 0) : cosine a b = 0 := by
  unfold cosine
  split
  · rfl
  · simp only [ops_zero, ops_eq, cosAcc_zero_left a b _ h, decide_true, Bool.true_or, ↓reduceIte]

theorem ofQ_nonneg {q : Q} (h : 0 ≤ q.num) : (0 : S) ≤ EScoreOps.ofQ q := by
  rw [ops_ofQ]
  exact div_nonneg (Int.cast_nonneg h) (Nat.cast_nonneg _)

theorem boostOne_spec (α floor : S) (hα : 0 ≤ α) (hfl : 0 ≤ floor) (sim : Nat → Option S)
    (hsim : ∀ id x, sim id = some x → x ≤ 1) (r : Nat × S) (hr : 0 ≤ r.2) :
    (boostOne α floor sim r).1 = r.1 ∧ r.2 ≤ (boostOne α floor sim r).2 ∧
      (boostOne α floor sim r).2 ≤ (1 + α) * r.2 ∧
      ((∀ x, sim r.1 = some x → x < floor) → boostOne α floor sim r = r) := by
  unfold boostOne
  have hmax : r.2 ≤ (1 + α) * r.2 := le_mul_of_one_le_left hr (le_add_of_nonneg_right hα)
  split
  · rename_i x hx
    simp only [ops_ge, decide_eq_true_eq, ops_mul, ops_add, ops_one]
    split
    · rename_i hge
      -- the factor 1 + α·x lies in [1, 1 + α] because floor ≤ x ≤ 1
      have hlo : 1 ≤ 1 + α * x := le_add_of_nonneg_right (mul_nonneg hα (le_trans hfl hge))
      have hhi : 1 + α * x ≤ 1 + α := add_le_add_right (mul_le_of_le_one_right hα (hsim _ _ hx)) 1
      refine ⟨rfl, le_mul_of_one_le_right hr hlo, ?_, fun hlt => absurd (hlt x hx) (not_lt.mpr hge)⟩
      rw [mul_comm]
      exact mul_le_mul_of_nonneg_right hhi hr
    · exact ⟨rfl, le_refl _, hmax, fun _ => rfl⟩
  · exact ⟨rfl, le_refl _, hmax, fun _ => rfl⟩

theorem keepsOrder_iff {x y : Nat × S} : keepsOrder x y = true ↔ y.2 ≤ x.2 := by
  simp [keepsOrder]

theorem keepsOrder_trans (a b c : Nat × S) (h1 : keepsOrder a b = true) (h2 : keepsOrder b c = true) :
    keepsOrder a c = true := by
  rw [keepsOrder_iff] at *
  exact le_trans h2 h1

theorem keepsOrder_total (a b : Nat × S) : (keepsOrder a b || keepsOrder b a) = true := by
  rw [Bool.or_eq_true, keepsOrder_iff, keepsOrder_iff]
  exact le_total _ _

theorem sortDesc_sorted (l : List (Nat × S)) : (sortDesc l).Pairwise (fun x y => y.2 ≤ x.2) := by
  have := List.pairwise_mergeSort keepsOrder_trans keepsOrder_total l
  exact this.imp keepsOrder_iff.mp

theorem sortDesc_stable (l : List (Nat × S)) (x y : Nat × S) (hxy : y.2 ≤ x.2)
    (h : [x, y].Sublist l) : [x, y].Sublist (sortDesc l) :=
  List.pair_sublist_mergeSort keepsOrder_trans keepsOrder_total (keepsOrder_iff.mpr hxy) h

theorem sortDesc_of_sorted (l : List (Nat × S)) (h : l.Pairwise (fun x y => y.2 ≤ x.2)) : sortDesc l = l :=
  List.mergeSort_of_pairwise (h.imp keepsOrder_iff.mpr)

end Field

end Wtf.Embedding
