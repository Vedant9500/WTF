import WtfModel.Model.Fuzzy
/-
  What the matcher of github.com/sahilm/fuzzy v0.1.1 accepts (C07, C10).  `arun` is the acceptance skeleton of the scored
  loop `Fuzzy.loop`: remaining pattern + "matchedIndex > -1", which the library never resets.  `arun_cons`: from any
  state, on a text whose runes after the first are not 0, the skeleton is the greedy case-folded subsequence test
  `subseqFold` (= `Occurs`, `subseqFold_iff`).  `loop_verdict`, `matchOne_verdict`: under `Inv` the scored loop makes the
  skeleton's accept / reject / panic decision on every input; the score bookkeeping is irrelevant.
-/
namespace Wtf.Fuzzy

/-- `p` occurs in `t` in order, comparing runes with `eq target pattern` (greedy left-to-right scan) -/
def subseqFold (eq : Nat → Nat → Bool) : List Nat → List Nat → Bool
  | [], _ => true
  | _ :: _, [] => false
  | pc :: ps, c :: cs => if eq c pc then subseqFold eq ps cs else subseqFold eq (pc :: ps) cs

inductive Pointwise (eq : Nat → Nat → Bool) : List Nat → List Nat → Prop
  | nil : Pointwise eq [] []
  | cons {pc c : Nat} {ps cs : List Nat} : eq c pc = true → Pointwise eq ps cs → Pointwise eq (pc :: ps) (c :: cs)

/-- declarative reading: some sub-list (characters in order, gaps allowed) of the target matches the
    pattern rune by rune -/
def Occurs (eq : Nat → Nat → Bool) (p t : List Nat) : Prop :=
  ∃ t' : List Nat, t'.Sublist t ∧ Pointwise eq p t'

/-- state: remaining pattern (head = `runes[patternIndex]`) and `matchedIndex > -1`.  A commit needs
    `matchedIndex > -1`, and the library never resets `matchedIndex`, so the flag stays set afterwards. -/
def arun (eq : Nat → Nat → Bool) : List Nat → Bool → List Nat → Except Panic (List Nat × Bool)
  | rem, seen, [] => .ok (rem, seen)
  | [], _, _ :: _ => .error .indexOutOfRange
  | pc :: ps, seen, c :: rest =>
    let seen' := seen || eq c pc
    let nextp := ps.head?.getD 0
    let nextc := rest.head?.getD 0
    if (eq nextp nextc || nextc == 0) && seen' then arun eq ps seen' rest
    else arun eq (pc :: ps) seen' rest

variable {eq : Nat → Nat → Bool}

@[simp] theorem subseqFold_nil (t : List Nat) : subseqFold eq [] t = true := by
  cases t <;> rfl

theorem subseqFold_nil_right (p : List Nat) : subseqFold eq p [] = p.isEmpty := by
  cases p <;> rfl

theorem subseqFold_cons (pc : Nat) (ps : List Nat) (c : Nat) (cs : List Nat) :
    subseqFold eq (pc :: ps) (c :: cs) = subseqFold eq (if eq c pc then ps else pc :: ps) cs := by
  rw [subseqFold]; split <;> rfl

theorem occurs_nil (t : List Nat) : Occurs eq [] t := ⟨[], List.nil_sublist _, .nil⟩

theorem not_occurs_cons_nil (pc : Nat) (ps : List Nat) : ¬ Occurs eq (pc :: ps) [] := by
  rintro ⟨t', hsub, hf⟩
  cases List.sublist_nil.mp hsub
  cases hf

theorem occurs_cons_cons (pc : Nat) (ps : List Nat) (c : Nat) (cs : List Nat) :
    Occurs eq (pc :: ps) (c :: cs) ↔ (eq c pc = true ∧ Occurs eq ps cs) ∨ Occurs eq (pc :: ps) cs := by
  constructor
  · rintro ⟨t', hsub, hf⟩
    cases hf with
    | cons hhd htl =>
      cases hsub with
      | cons _ h => exact Or.inr ⟨_, h, .cons hhd htl⟩
      | cons_cons _ h => exact Or.inl ⟨hhd, _, h, htl⟩
  · rintro (⟨he, t', hsub, hf⟩ | ⟨t', hsub, hf⟩)
    · exact ⟨c :: t', hsub.cons_cons c, .cons he hf⟩
    · exact ⟨t', hsub.cons c, hf⟩

theorem Occurs.tail {pc : Nat} {ps cs : List Nat} : Occurs eq (pc :: ps) cs → Occurs eq ps cs := by
  rintro ⟨t', hsub, hf⟩
  cases hf with
  | cons _ htl => exact ⟨_, (List.sublist_cons_self _ _).trans hsub, htl⟩

theorem subseqFold_iff (p t : List Nat) : subseqFold eq p t = true ↔ Occurs eq p t := by
  induction t generalizing p with
  | nil =>
    cases p with
    | nil => exact iff_of_true rfl (occurs_nil _)
    | cons pc ps => exact iff_of_false (by simp [subseqFold]) (not_occurs_cons_nil pc ps)
  | cons c cs ih =>
    cases p with
    | nil => exact iff_of_true rfl (occurs_nil _)
    | cons pc ps =>
      rw [subseqFold_cons, ih, occurs_cons_cons]
      by_cases he : eq c pc = true
      · -- greedy is enough: a match that skips `c` can be shifted to use it
        rw [if_pos he]
        exact ⟨fun h => Or.inl ⟨he, h⟩, fun h => h.elim (·.2) Occurs.tail⟩
      · rw [if_neg he]
        exact ⟨Or.inr, fun h => h.elim (fun h' => absurd h'.1 he) id⟩

/-- What the skeleton does in state `(pc :: ps, seen)` on a text whose runes after the first are not 0: no panic, and
    after the first rune `c` the pattern still to be found (greedily) in the rest is `ps` if the head counts as seen,
    else `pc :: ps`.  No assumption on `seen`: a flag left set by the previous commit is, to the skeleton, a head
    already seen. -/
theorem arun_cons (hsym : ∀ a b, eq a b = eq b a) (hz : ∀ c, c ≠ 0 → eq 0 c = false)
    (rest : List Nat) : ∀ (c pc : Nat) (ps : List Nat) (seen : Bool), (∀ x ∈ rest, x ≠ 0) →
      (arun eq (pc :: ps) seen (c :: rest)).map (·.1.isEmpty) =
        .ok (subseqFold eq (if seen || eq c pc then ps else pc :: ps) rest) := by
  induction rest with
  | nil =>
    -- the text ends here: commit iff the head has been seen
    intro c pc ps seen _
    cases h : (seen || eq c pc)
    · simp [arun, h, Except.map, subseqFold]
    · simp [arun, h, Except.map, subseqFold_nil_right]
  | cons c2 rest2 ih =>
    intro c pc ps seen hnz
    have hc2 : c2 ≠ 0 := hnz c2 (by simp)
    have hnz2 : ∀ x ∈ rest2, x ≠ 0 := fun x hx => hnz x (by simp [hx])
    have hc2b : (c2 == 0) = false := by simpa using hc2
    rw [arun]
    simp only [List.head?_cons, Option.getD_some, hc2b, Bool.or_false]
    cases h : (seen || eq c pc)
    · -- head not seen: no commit, and the claim is `subseqFold_cons` read backwards
      simp only [Bool.and_false, Bool.false_eq_true, if_false]
      rw [ih c2 pc ps false hnz2, subseqFold_cons, Bool.false_or]
    · simp only [Bool.and_true, if_true]
      cases ps with
      | nil =>
        -- nothing to look ahead to (`nextp = 0`, and `c2 ≠ 0`): stay, pattern already found
        simp only [List.head?_nil, Option.getD_none, hz c2 hc2, Bool.false_eq_true, if_false]
        rw [ih c2 pc [] true hnz2, Bool.true_or, if_pos rfl, subseqFold_nil, subseqFold_nil]
      | cons pn ps2 =>
        simp only [List.head?_cons, Option.getD_some]
        rw [subseqFold_cons, ← hsym pn c2]
        by_cases hq : eq pn c2 = true
        · -- commit: the flag stays set for `pn`, and `c2` matches `pn`
          simp only [hq, if_true]
          rw [ih c2 pn ps2 true hnz2, Bool.true_or, if_pos rfl]
        · simp only [hq, Bool.false_eq_true, if_false]
          rw [ih c2 pc (pn :: ps2) true hnz2, Bool.true_or, if_pos rfl]

theorem arun_accepts (hsym : ∀ a b, eq a b = eq b a) (hz : ∀ c, c ≠ 0 → eq 0 c = false)
    (p t : List Nat) (hp : p ≠ []) (ht : ∀ c ∈ t.tail, c ≠ 0) :
    (arun eq p false t).map (·.1.isEmpty) = .ok (subseqFold eq p t) := by
  cases p with
  | nil => exact absurd rfl hp
  | cons pc ps =>
    cases t with
    | nil => rfl
    | cons c rest => rw [arun_cons hsym hz rest c pc ps false ht, subseqFold_cons, Bool.false_or]

/-- facts about the score bookkeeping that acceptance depends on -/
structure Inv (s : St) : Prop where
  /-- `matchedIndex` is set as soon as there is a pending best candidate or a commit; the library never resets it
      (scores themselves may have wrapped: nothing is assumed about them) -/
  set : 0 ≤ s.matchedIndex ∨ (s.matched = [] ∧ s.bestScore = -1)
  len : s.matched.length = s.patternIndex

theorem inv_init : Inv ({} : St) := ⟨Or.inr ⟨rfl, rfl⟩, rfl⟩

/-- the bonuses for where the candidate stands (first rune, camel case, after a separator): never negative -/
def positionBonus (ri : RuneInfo) (s : St) (j candidate : Nat) : Int :=
  let sc0 : Int := 0
  let sc1 := if j == 0 then sc0 + 10 else sc0
  let sc2 := if ri.isLower s.last && ri.isUpper candidate then sc1 + 20 else sc1
  if j != 0 && isSeparator s.last then sc2 + 20 else sc2

theorem positionBonus_nonneg (ri : RuneInfo) (s : St) (j c : Nat) : 0 ≤ positionBonus ri s j c := by
  unfold positionBonus
  split <;> split <;> split <;> decide

/-- the "candidate matches the current pattern rune" half of an iteration -/
def matchHalf (ri : RuneInfo) (pc : Nat) (s : St) (j candidate : Nat) : St :=
  if ri.eqFold candidate pc then
    let sc3 := positionBonus ri s j candidate
    let (sc4, adj) :=
      match s.matched with
      | lastMatch :: _ =>
        let bonus := adjacentCharBonus s.lastIndex lastMatch s.currAdj
        (wrap64 (sc3 + bonus), wrap64 (s.currAdj + bonus))
      | [] => (sc3, s.currAdj)
    if sc4 > s.bestScore then { s with bestScore := sc4, matchedIndex := j, currAdj := adj }
    else { s with currAdj := adj }
  else s

/-- the "commit when the next match is coming up or the text ends" half, and the bookkeeping of the last rune -/
def commitHalf (s1 : St) (cond : Bool) (j candidate : Nat) : St :=
  let s2 : St :=
    if cond && s1.matchedIndex > -1 then
      let best :=
        if s1.matched.isEmpty then
          let penalty : Int := s1.matchedIndex * (-5)
          s1.bestScore + (if penalty > -15 then penalty else -15)
        else s1.bestScore
      { s1 with score := wrap64 (s1.score + best), matched := s1.matchedIndex.toNat :: s1.matched,
                bestScore := -1, patternIndex := s1.patternIndex + 1 }
    else s1
  { s2 with lastIndex := j, last := candidate }

variable (ri : RuneInfo) (pat : Array Nat)

theorem stepRune_oob (s : St) (j c nextc : Nat) (h : ¬ s.patternIndex < pat.size) :
    stepRune ri pat s j c nextc = .error .indexOutOfRange := by
  unfold stepRune; simp only [h, dite_false]

theorem matchHalf_spec (pc : Nat) (s : St) (j c : Nat) (hinv : Inv s) :
    let s1 := matchHalf ri pc s j c
    Inv s1 ∧ s1.patternIndex = s.patternIndex ∧
      (decide (s1.matchedIndex > -1) = (decide (s.matchedIndex > -1) || ri.eqFold c pc)) := by
  unfold matchHalf
  cases he : ri.eqFold c pc with
  | false =>
    simp only [Bool.false_eq_true, if_false, Bool.or_false]
    exact ⟨hinv, by simp⟩
  | true =>
    simp only [if_true, Bool.or_true, decide_eq_true_eq]
    rcases hinv.set with hset | ⟨hm, hb⟩
    · -- `matchedIndex` is set already: it stays, or becomes `j`
      split <;> (simp only []; split) <;> exact ⟨⟨Or.inl (by simp only; omega), hinv.len⟩, rfl, by simp only; omega⟩
    · -- nothing pending, no commit yet: the candidate's score is its position bonus, and that beats `-1`
      have := positionBonus_nonneg ri s j c
      rw [hm, hb]
      rw [if_pos (by simp only; omega)]
      exact ⟨⟨Or.inl (by simp only; omega), by simpa [hm] using hinv.len⟩, rfl, by simp only; omega⟩

theorem commitHalf_spec (s1 : St) (cond : Bool) (j c : Nat) (hinv : Inv s1) :
    let s2 := commitHalf s1 cond j c
    Inv s2 ∧ s2.patternIndex = (if cond && decide (s1.matchedIndex > -1) then s1.patternIndex + 1 else s1.patternIndex) ∧
      decide (s2.matchedIndex > -1) = decide (s1.matchedIndex > -1) := by
  unfold commitHalf
  split
  · rename_i hc
    have hmi : s1.matchedIndex > -1 := by
      simp only [Bool.and_eq_true, decide_eq_true_eq] at hc; exact hc.2
    exact ⟨⟨Or.inl (by simp only; omega), by simp only [List.length_cons]; rw [hinv.len]⟩, rfl, by simp [hmi]⟩
  · exact ⟨⟨hinv.set, hinv.len⟩, rfl, rfl⟩

theorem nextp_eq (pi : Nat) :
    (if pi + 1 < pat.size then pat[pi + 1]! else 0) = ((pat.toList.drop (pi + 1)).head?.getD 0) := by
  rw [List.head?_drop]
  split
  · rename_i h
    simp [h]
  · rename_i h
    have : pat.toList[pi + 1]? = none := by simp; omega
    simp [this]

theorem stepRune_eq (s : St) (j c nextc : Nat) (h : s.patternIndex < pat.size) :
    stepRune ri pat s j c nextc =
      .ok (commitHalf (matchHalf ri pat[s.patternIndex] s j c)
            (ri.eqFold (if (matchHalf ri pat[s.patternIndex] s j c).patternIndex + 1 < pat.size
                        then pat[(matchHalf ri pat[s.patternIndex] s j c).patternIndex + 1]! else 0) nextc || nextc == 0) j c) := by
  unfold stepRune
  rw [dif_pos h]
  rfl

/-- the look-ahead rune is the head of the remaining runes, 0 at the end of the text -/
theorem loop_cons (s : St) (r off w : Nat) (rest : List (Nat × Nat × Nat)) :
    loop ri pat s ((r, off, w) :: rest) =
      match stepRune ri pat s off r ((rest.map (·.1)).head?.getD 0) with
      | .ok s' => loop ri pat s' rest
      | .error e => .error e := by
  cases rest with
  | nil => rfl
  | cons a _ => obtain ⟨r', _, _⟩ := a; rfl

/-- what the skeleton sees of a state of the scored loop -/
def abs (pat : Array Nat) (s : St) : List Nat × Bool := (pat.toList.drop s.patternIndex, decide (s.matchedIndex > -1))

theorem stepRune_abs (s : St) (j c : Nat) (rest : List Nat) (hinv : Inv s)
    (hlt : s.patternIndex < pat.size) :
    ∃ s', stepRune ri pat s j c (rest.head?.getD 0) = .ok s' ∧ Inv s' ∧ s'.patternIndex ≤ pat.size ∧
      arun ri.eqFold (abs pat s).1 (abs pat s).2 (c :: rest) = arun ri.eqFold (abs pat s').1 (abs pat s').2 rest := by
  have hdrop : pat.toList.drop s.patternIndex = pat[s.patternIndex] :: pat.toList.drop (s.patternIndex + 1) := by
    rw [List.drop_eq_getElem_cons (by simpa using hlt)]; simp
  obtain ⟨hinv1, hpi1, hseen1⟩ := matchHalf_spec ri pat[s.patternIndex] s j c hinv
  have hstep := stepRune_eq ri pat s j c (rest.head?.getD 0) hlt
  rw [hpi1, nextp_eq] at hstep
  obtain ⟨hinv2, hpi2, hseen2⟩ := commitHalf_spec (matchHalf ri pat[s.patternIndex] s j c) _ j c hinv1
  rw [hpi1, hseen1] at hpi2
  refine ⟨_, hstep, hinv2, by rw [hpi2]; split <;> omega, ?_⟩
  -- the skeleton's step: the same test decides whether the head of the remaining pattern is dropped
  rw [abs, abs, hpi2, hseen2, hseen1, hdrop, arun]
  split
  · rfl
  · rw [hdrop]

/-- **refinement**: from every state the scored loop ends with all of the pattern committed, ends with some of it left,
    or panics exactly as the acceptance skeleton does, started from the abstraction of the state -/
theorem loop_verdict : ∀ (d : List (Nat × Nat × Nat)) (s : St), Inv s → s.patternIndex ≤ pat.size →
    (loop ri pat s d).map (fun s' => s'.matched.length == pat.size) =
      (arun ri.eqFold (abs pat s).1 (abs pat s).2 (d.map (·.1))).map (·.1.isEmpty)
  | [], s, hinv, hle => by
    -- at the end of the text: all of the pattern committed (`len(matched) = len(pattern)`) iff none of it remains
    refine congrArg Except.ok (?_ : (s.matched.length == pat.size) = (pat.toList.drop s.patternIndex).isEmpty)
    rw [Bool.eq_iff_iff, hinv.len, beq_iff_eq, List.isEmpty_iff, List.drop_eq_nil_iff, Array.length_toList]
    omega
  | (r, off, w) :: rest, s, hinv, hle => by
    rw [loop_cons, List.map_cons]
    by_cases hlt : s.patternIndex < pat.size
    · obtain ⟨s', hstep, hinv', hle', harun⟩ := stepRune_abs ri pat s off r (rest.map (·.1)) hinv hlt
      rw [hstep, harun]
      exact loop_verdict rest s' hinv' hle'
    · -- pattern exhausted but text left: both index past the pattern
      rw [stepRune_oob _ _ _ _ _ _ hlt]
      have hdrop : pat.toList.drop s.patternIndex = [] := by rw [List.drop_eq_nil_iff, Array.length_toList]; omega
      simp only [abs, hdrop]
      rfl

open Utf8 in
/-- **refinement**, as one equation: accept / reject / panic of the scored matcher is that of the skeleton, on every input -/
theorem matchOne_verdict (p t : Bytes) :
    (matchOne ri p t).map Option.isSome = (arun ri.eqFold (runes p) false (runes t)).map (·.1.isEmpty) := by
  -- the initial state abstracts to `(runes p, false)`
  refine Eq.trans ?_ (loop_verdict ri (runes p).toArray (decode t) {} inv_init (Nat.zero_le _))
  unfold matchOne
  dsimp only
  cases loop ri (runes p).toArray {} (decode t) with
  | error e => rfl
  | ok s =>
    dsimp only [Except.map]
    cases s.matched.length == (runes p).toArray.size <;> rfl

end Wtf.Fuzzy
