/-
  C16: the executable JSON codec of the history file (`Model/HistoryJson.lean`, the codec the driver runs
  against encoding/json on every check) SATISFIES the laws the save / load theorems need
  (`Codec.LawsOn`), for valid UTF-8 strings, calendar instants of the years 1 .. 9999 and integers in
  Go's `int` range.  Nothing is assumed: the string part is `Proofs/HistoryJsonStr.lean`, the digit and
  RFC 3339 part `Proofs/HistoryJsonTime.lean`, the parser part `Proofs/HistoryJsonParse.lean`.
  Core Lean only.
-/
import WtfModel.Proofs.History
import WtfModel.Proofs.HistoryJsonStr
import WtfModel.Proofs.HistoryJsonTime
import WtfModel.Proofs.HistoryJsonParse
namespace Wtf.History.Json

/-- Go's `int` on the platforms the tool is built for (64 bit) -/
def Int64 (i : Int) : Prop := -9223372036854775808 ≤ i ∧ i ≤ 9223372036854775807

theorem key_ok : ∀ k ∈ [kQuery, kTimestamp, kResults, kContext, kDuration, kEntries, kMaxSize], unquote (quote k) = k := by
  decide +kernel

theorem WFJ.obj_of {kvs : List (Bytes × JVal)} (h : ∀ kv ∈ kvs, unquote (quote kv.1) = kv.1 ∧ WFJ kv.2) : WFJ (.obj kvs) :=
  WFJ.obj kvs (fun kv hkv => (h kv hkv).1) (fun kv hkv => (h kv hkv).2)

theorem wfj_encEntry (e : Entry) (hr : Int64 e.results) (hd : Int64 e.duration) : WFJ (encEntry goCodec e) := by
  unfold encEntry
  refine WFJ.obj_of fun kv hkv => ?_
  simp only [List.mem_append, List.mem_cons, List.not_mem_nil, or_false] at hkv
  rcases hkv with ((h | h | h) | h) | h
  · subst h; exact ⟨key_ok _ (by simp), WFJ.str _ (litOK_quote _)⟩
  · subst h; exact ⟨key_ok _ (by simp), WFJ.str _ (litOK_fmtTime _)⟩
  · subst h; exact ⟨key_ok _ (by simp), WFJ.int _ hr.1 hr.2⟩
  · split at h
    · cases h
    · cases List.mem_singleton.mp h; exact ⟨key_ok _ (by simp), WFJ.str _ (litOK_quote _)⟩
  · split at h
    · cases h
    · cases List.mem_singleton.mp h; exact ⟨key_ok _ (by simp), WFJ.int _ hd.1 hd.2⟩

theorem wfj_encode (s : State) (hm : Int64 s.maxSize) (he : ∀ e ∈ s.entries, Int64 e.results ∧ Int64 e.duration) :
    WFJ (encode goCodec s) := by
  unfold encode
  refine WFJ.obj_of fun kv hkv => ?_
  simp only [List.mem_cons, List.not_mem_nil, or_false] at hkv
  rcases hkv with h | h
  · subst h
    refine ⟨key_ok _ (by simp), WFJ.arr _ fun x hx => ?_⟩
    obtain ⟨e, hem, rfl⟩ := List.mem_map.mp hx
    exact wfj_encEntry e (he e hem).1 (he e hem).2
  · subst h; exact ⟨key_ok _ (by simp), WFJ.int _ hm.1 hm.2⟩

theorem goCodec_lawsOn : Codec.LawsOn goCodec (fun b => validUtf8 b = true) OkTime Int64 :=
  { parse_print := fun s hm he => by
      -- `goCodec` is unfolded first: left to unification, `parse` is unfolded instead and its fuel evaluated
      dsimp only [goCodec]
      exact parse_print_wf digitFacts _ (wfj_encode s hm (fun e h => (he e h).2.2.2))
    print_nonempty := fun s => by
      dsimp only [goCodec]
      rw [encode, print]; rfl
    unquote_quote := fun b hb => by dsimp only [goCodec]; exact (validUtf8_iff b).mp hb
    parseTime_fmtTime := fun t ht => by dsimp only [goCodec]; exact parseTime_fmtTime_ok t ht }

end Wtf.History.Json
