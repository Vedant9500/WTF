import WtfModel.Model.Search
/-
  A kernel-evaluable score type for the non-vacuity examples of the search-family properties:
  unnormalised fractions with cross-multiplied comparison.  (Only used to *run* the model on concrete
  inputs inside `example`s; no theorem depends on it.)  Core Lean only.
-/
namespace Wtf.Example
open Wtf.Filters Wtf.Search

instance scoreQ : ScoreOps Q where
  zero := ⟨0, 1⟩
  one := ⟨1, 1⟩
  add a b := ⟨a.num * b.den + b.num * a.den, a.den * b.den⟩
  sub a b := ⟨a.num * b.den - b.num * a.den, a.den * b.den⟩
  mul a b := ⟨a.num * b.num, a.den * b.den⟩
  div a b := if b.num < 0 then ⟨-(a.num * b.den), a.den * b.num.natAbs⟩ else ⟨a.num * b.den, a.den * b.num.natAbs⟩
  lt a b := decide (a.num * b.den < b.num * a.den)
  ofNat n := ⟨n, 1⟩
  ofQ q := q

/-- a command entry as the loader builds it (ASCII lower-case cache fields) -/
def mk (cmd desc : String) (plat : List String) (pipeline : Bool := false) : Cmd :=
  { command := bs cmd, description := bs desc, keywords := [], tags := [], niche := [], platform := plat.map bs,
    pipeline := pipeline, commandLower := Text.lowerAscii (bs cmd), descriptionLower := Text.lowerAscii (bs desc),
    keywordsLower := [], tagsLower := [] }

/-- stands in for the fuzzy library's sort in the examples: an insertion sort, descending by score, equal scores in
    reverse input order — the order `sort.Stable` leaves under the library's non-strict `Less` (`GoSort.fuzzyStable_lex`) -/
def insertDesc (x : Nat × Int) : List (Nat × Int) → List (Nat × Int)
  | [] => [x]
  | y :: ys => if y.2 < x.2 then x :: y :: ys else y :: insertDesc x ys

def sortScoreDesc (ms : List (Nat × Int)) : List (Nat × Int) := ms.foldr insertDesc []

def tuning (host : String := "linux") : Tuning Q :=
  { params := Index.genParams, idf := fun _ _ => ⟨1, 1⟩, host := bs host, ri := {},
    normQ := fun q => GoStr.toLower {} (GoStr.trimSpace {} q),
    nlp := fun _ => { intentBoost := fun _ => ⟨1, 1⟩, cascade := fun _ => ⟨1, 1⟩ }, tfidf := none,
    fuzzySort := sortScoreDesc }

def opts : Opts Q := { pipelineBoost := ⟨0, 1⟩ }

def ids (r : Except Fuzzy.Panic (List (Nat × Q))) : Option (List Nat) :=
  match r with
  | .ok l => some (l.map (·.1))
  | .error _ => none

/-- outcome of the matcher on one target: `none` = the library panics (index out of range) -/
def outcome (r : Except Fuzzy.Panic (Option (Int × List Nat))) : Option (Option (Int × List Nat)) :=
  match r with
  | .ok m => some m
  | .error _ => none

end Wtf.Example
