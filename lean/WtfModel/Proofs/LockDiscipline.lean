import WtfModel.Model.LockDiscipline

/-! The two forms of the lock discipline in Model/LockDiscipline.lean, in the one direction that is used: the function that
    lists failures (`violations`) finds every failure of the predicate (`Disciplined`).  Core Lean only. -/
namespace Wtf.LockDiscipline
open Wtf.Gen.LockFacts

/-- each group of `violationsOf` is the negation of one conjunct of `UnitOK` -/
theorem unitOK_of_violationsOf_nil {ms : List MethodFact} {sc : Bool} {m : MethodFact}
    (h : violationsOf ms sc m = []) : UnitOK ms sc m := by
  unfold violationsOf at h
  simp only [List.append_eq_nil_iff, List.map_eq_nil_iff, List.filter_eq_nil_iff] at h
  obtain ⟨⟨⟨h1, h2⟩, h3⟩, h4⟩ := h
  cases he : effPhases ms m with
  | none => rw [he] at h4; cases h4
  | some ps =>
    rw [he] at h4
    simp only [List.flatMap_eq_nil_iff, List.append_eq_nil_iff, List.map_eq_nil_iff, List.filter_eq_nil_iff] at h4
    simp only [UnitOK, he, Option.isSome_some, Option.toList_some, List.mem_singleton, forall_eq]
    refine ⟨h1, trivial, ?_, ?_, ?_, h2, ?_⟩
    · intro p hp hw
      have := (h4 p hp).1.1
      by_cases hl : p.lock = .exclusive
      · exact hl
      · rw [if_pos (by simpa using hl), List.map_eq_nil_iff] at this
        exact absurd this hw
    · intro p hp hl r hr
      have := (h4 p hp).1.2
      rw [if_pos (by simp [hl]), List.map_eq_nil_iff, List.filter_eq_nil_iff] at this
      simpa using this r hr
    · intro p hp f hf
      simpa using (h4 p hp).2 f hf
    · intro q hq
      simpa using h3 q hq

theorem disciplined_of_violations_nil {ms : List MethodFact} {sc : Bool} (h : violations ms sc = []) :
    Disciplined ms sc := fun m hm =>
  unitOK_of_violationsOf_nil (List.flatMap_eq_nil_iff.mp h m hm)

end Wtf.LockDiscipline
