/-
  C16, byte-level facts shared by the string, time and parser parts of the executable JSON codec
  (`Model/HistoryJson.lean`): hex digits, the equations of `litOK` (accepted literal bodies), what `quote`
  writes is such a body, runs of decimal digits.  Core Lean only.
-/
import WtfModel.Proofs.HistoryJsonDefs
namespace Wtf.History.Json

theorem hexVal_hexDigitB_fin : ∀ n : Fin 16, hexVal (hexDigitB n.val) = n.val ∧ isHex (hexDigitB n.val) = true := by decide
theorem hexVal_hexDigitB (n : Nat) (h : n < 16) : hexVal (hexDigitB n) = n := (hexVal_hexDigitB_fin ⟨n, h⟩).1
theorem isHex_hexDigitB (n : Nat) (h : n < 16) : isHex (hexDigitB n) = true := (hexVal_hexDigitB_fin ⟨n, h⟩).2

theorem litOK_plain {a : UInt8} {r : Bytes} (h1 : a ≠ 34) (h2 : ¬ a < 32) (h3 : a ≠ 92) :
    litOK (a :: r) = litOK r := by
  rw [litOK.eq_def]; simp [h1, h2, h3]

theorem litOK_esc {e : UInt8} {r : Bytes} (h : (e == 117) = false) :
    litOK (92 :: e :: r)
      = ((e == 34 || e == 92 || e == 47 || e == 98 || e == 102 || e == 110 || e == 114 || e == 116) && litOK r) := by
  rw [litOK.eq_def]; simp [h]

theorem litOK_u (h1 h2 h3 h4 : UInt8) (r : Bytes) :
    litOK (92 :: 117 :: h1 :: h2 :: h3 :: h4 :: r) = (isHex h1 && isHex h2 && isHex h3 && isHex h4 && litOK r) := by
  rw [litOK.eq_def]; simp

theorem litOK_of_plain (b : Bytes) (h : ∀ c ∈ b, 32 ≤ c ∧ c ≠ 34 ∧ c ≠ 92) : litOK b = true := by
  induction b with
  | nil => rfl
  | cons a r ih =>
    have ha := h a (by simp)
    rw [litOK_plain ha.2.1 (UInt8.not_lt.mpr ha.1) ha.2.2]
    exact ih (fun c hc => h c (by simp [hc]))

theorem litOK_quote (b : Bytes) : litOK (quote b) = true := by
  fun_induction quote b with
  | case1 => rfl
  | case2 c r h ih => rw [litOK_esc (by decide), ih]; rfl
  | case3 c r h1 h2 ih => rw [litOK_esc (by decide), ih]; rfl
  | case4 c r h1 h2 h3 ih =>
    have hc := c.toNat_lt
    rw [List.cons_append, List.cons_append, List.cons_append, List.cons_append, List.cons_append, List.cons_append,
      List.nil_append, litOK_u, ih, isHex_hexDigitB _ (by omega), isHex_hexDigitB _ (by omega)]
    rfl
  | case5 c r h1 h2 h3 ih =>
    rw [litOK_plain (by simpa using h1) h3 (by simpa using h2)]; exact ih

theorem isDigit_iff (c : UInt8) : isDigit c = true ↔ 48 ≤ c.toNat ∧ c.toNat ≤ 57 := by
  simp [isDigit, UInt8.le_iff_toNat_le]

theorem takeDigits_append {ds rest : Bytes} (h : ds.all isDigit = true) (hr : ∀ c t, rest = c :: t → isDigit c = false) :
    takeDigits (ds ++ rest) = (ds, rest) := by
  induction ds with
  | nil =>
    match rest, hr with
    | [], _ => rfl
    | c :: t, hr => simp [takeDigits, hr c t rfl]
  | cons d ds ih =>
    simp only [List.all_cons, Bool.and_eq_true] at h
    simp [takeDigits, h.1, ih h.2]

end Wtf.History.Json
