import WtfModel.Model.Metrics
import WtfModel.Proofs.ListBasics

/-!
  For C18.  Go's string order is the lexicographic order on bytes, a total order, so `sort.Strings` is a function of
  the multiset of tag names and the sorted series key does not depend on the order in which the tag map is iterated
  (`metricKey_perm`).  A registry keeps its keys distinct, and an update reaches exactly the series of its key
  (`valD_applyEvs`).  A counter holds the wrapped sum of what came after its last reset (`counterRun_zero`).
  Histograms are in `MetricsHist.lean`, the monitor and the interleaving model in `MetricsMonitor.lean`.
-/
namespace Wtf.Metrics

theorem bytesLe_iff : ∀ a b : Bytes, bytesLe a b = true ↔ a ≤ b
  | [], b => by simp [bytesLe, List.nil_le]
  | _ :: _, [] => by simp [bytesLe]
  | x :: a, y :: b => by
    rw [bytesLe, List.cons_le_cons_iff, ← bytesLe_iff a b, ← UInt8.toNat_inj, UInt8.lt_iff_toNat_lt]
    rcases Nat.lt_trichotomy x.toNat y.toNat with h | h | h
    · simp [h]
    · simp [h]
    · simp [h, Nat.lt_asymm h, Nat.ne_of_gt h]

theorem bytesLe_total (a b : Bytes) : bytesLe a b = true ∨ bytesLe b a = true := by
  simpa only [bytesLe_iff] using List.le_total a b

theorem bytesLe_antisymm (a b : Bytes) : bytesLe a b = true → bytesLe b a = true → a = b := by
  simpa only [bytesLe_iff] using List.le_antisymm

theorem bytesLe_trans (a b c : Bytes) : bytesLe a b = true → bytesLe b c = true → bytesLe a c = true := by
  simpa only [bytesLe_iff] using List.le_trans

section SortSec
variable {α : Type} (le : α → α → Bool)

theorem insertBy_eq_merge (x : α) : ∀ l : List α, insertBy le x l = [x].merge l le
  | [] => (List.merge_right _).symm
  | y :: ys => by rw [insertBy, singleton_merge_cons, insertBy_eq_merge x ys]

theorem sortBy_eq_foldr : ∀ l : List α, sortBy le l = l.foldr (fun x acc => [x].merge acc le) []
  | [] => rfl
  | x :: xs => by rw [sortBy, insertBy_eq_merge, sortBy_eq_foldr xs, List.foldr_cons]

theorem insertBy_perm (x : α) (l : List α) : (insertBy le x l).Perm (x :: l) :=
  insertBy_eq_merge le x l ▸ List.merge_perm_append le

theorem sortBy_perm (l : List α) : (sortBy le l).Perm l := sortBy_eq_foldr le l ▸ foldr_merge_perm le l

theorem sortBy_sorted (htot : ∀ a b, le a b = true ∨ le b a = true)
    (htr : ∀ a b c, le a b = true → le b c = true → le a c = true) (l : List α) :
    (sortBy le l).Pairwise (fun a b => le a b = true) :=
  sortBy_eq_foldr le l ▸ foldr_merge_pairwise htr (by simpa using htot) l

theorem sortBy_perm_eq (htot : ∀ a b, le a b = true ∨ le b a = true)
    (htr : ∀ a b c, le a b = true → le b c = true → le a c = true)
    (has : ∀ a b, le a b = true → le b a = true → a = b)
    {l₁ l₂ : List α} (h : l₁.Perm l₂) : sortBy le l₁ = sortBy le l₂ :=
  eq_of_perm_of_sorted has (sortBy_sorted le htot htr l₁) (sortBy_sorted le htot htr l₂)
    (sortBy_perm le l₁) (sortBy_perm le l₂) h

end SortSec

theorem sortKeys_perm_eq {σ₁ σ₂ : List Bytes} (h : σ₁.Perm σ₂) : sortKeys σ₁ = sortKeys σ₂ :=
  sortBy_perm_eq bytesLe bytesLe_total bytesLe_trans bytesLe_antisymm h

theorem render_congr (sp : Seps) {t₁ t₂ : Tags} (h : ∀ k, tagValue t₁ k = tagValue t₂ k) (order : List Bytes) :
    ∀ name, render sp name t₁ order = render sp name t₂ order := by
  induction order with
  | nil => intro name; rfl
  | cons k ks ih => intro name; simp only [render, List.foldl_cons, h k]; exact ih _

theorem tagValue_of_not_mem : ∀ (tags : Tags) (k : Bytes), k ∉ tagNames tags → tagValue tags k = []
  | [], _, _ => rfl
  | (k', v) :: rest, k, h => by
    simp only [tagNames, List.map_cons, List.mem_cons, not_or] at h
    have : ¬ k' = k := fun e => h.1 e.symm
    simp only [tagValue, this, ↓reduceIte]
    exact tagValue_of_not_mem rest k h.2

theorem tagValue_eq_foldr (tags : Tags) (k : Bytes) :
    tagValue tags k = tags.foldr (fun p acc => if p.1 = k then p.2 else acc) [] := by
  induction tags with
  | nil => rfl
  | cons p rest ih => rw [tagValue, ih, List.foldr_cons]

theorem tagValue_perm {t₁ t₂ : Tags} (h : t₁.Perm t₂) (hn : (tagNames t₁).Nodup) (k : Bytes) :
    tagValue t₁ k = tagValue t₂ k := by
  rw [tagValue_eq_foldr, tagValue_eq_foldr]
  -- the steps of the fold commute: two entries that both answer for `k` are one entry, the names being distinct
  refine h.foldr_eq' (fun x hx y hy z => ?_) _
  by_cases h1 : x.1 = k
  · by_cases h2 : y.1 = k
    · rw [inj_of_nodup_map (l := t₁) Prod.fst hn hx hy (h1.trans h2.symm)]
    · simp only [h1, h2, if_true, if_false]
  · simp only [h1, if_false]

theorem metricKey_sorted_indep (sp : Seps) (name : Bytes) (tags : Tags) {σ₁ σ₂ : List Bytes}
    (h : σ₁.Perm σ₂) : metricKey true sp name tags σ₁ = metricKey true sp name tags σ₂ := by
  simp only [metricKey, ↓reduceIte, sortKeys_perm_eq h]

theorem metricKey_perm (sp : Seps) (name : Bytes) {t₁ t₂ : Tags} (ht : t₁.Perm t₂)
    (hn : (tagNames t₁).Nodup) {σ₁ σ₂ : List Bytes} (h₁ : ValidSched t₁ σ₁) (h₂ : ValidSched t₂ σ₂) :
    metricKey true sp name t₁ σ₁ = metricKey true sp name t₂ σ₂ := by
  have hm : (tagNames t₁).Perm (tagNames t₂) := ht.map Prod.fst
  have hσ : σ₁.Perm σ₂ := h₁.trans (hm.trans h₂.symm)
  simp only [metricKey, ↓reduceIte, sortKeys_perm_eq hσ, ht.isEmpty_eq]
  split
  · rfl
  · exact render_congr sp (tagValue_perm ht hn) _ _

theorem render_prefix (sp : Seps) (tags : Tags) : ∀ (order : List Bytes) (name : Bytes),
    ∃ rest, render sp name tags order = name ++ rest
  | [], name => ⟨[], (List.append_nil _).symm⟩
  | k :: ks, name => by
    obtain ⟨rest, h⟩ := render_prefix sp tags ks (name ++ sp.tag ++ k ++ sp.kv ++ tagValue tags k)
    exact ⟨sp.tag ++ k ++ sp.kv ++ tagValue tags k ++ rest, by
      rw [render, List.foldl_cons, ← render, h]; simp only [List.append_assoc]⟩

theorem metricKey_head (sorts : Bool) (sp : Seps) (name : Bytes) (tags : Tags) (σ : List Bytes) (hne : name ≠ []) :
    (metricKey sorts sp name tags σ).head? = name.head? := by
  have h : ∀ order, (render sp name tags order).head? = name.head? := fun order => by
    obtain ⟨rest, h⟩ := render_prefix sp tags order name
    rw [h]
    cases name with
    | nil => exact absurd rfl hne
    | cons a as => rfl
  unfold metricKey
  split
  · rfl
  · split <;> exact h _

section Registry
variable {β : Type}

def keysOf (r : Registry β) : List Bytes := r.map (·.key)

def valD (r : Registry β) (key : Bytes) (fresh : β) : β := (valueOf? r key).getD fresh

theorem getOrCreate_fst_snd (r : Registry β) (key name : Bytes) (tags : Tags) (fresh : β) :
    ∃ s, (getOrCreate r key name tags fresh).1[(getOrCreate r key name tags fresh).2]? = some s ∧ s.key = key := by
  induction r with
  | nil => exact ⟨⟨key, name, tags, fresh⟩, by simp [getOrCreate]⟩
  | cons s rest ih =>
    simp only [getOrCreate]
    split
    · exact ⟨s, by simp, by assumption⟩
    · obtain ⟨s', h1, h2⟩ := ih
      exact ⟨s', by simpa using h1, h2⟩

theorem getOrCreate_again (r : Registry β) (key name name' : Bytes) (tags tags' : Tags) (fresh fresh' : β) :
    getOrCreate (getOrCreate r key name tags fresh).1 key name' tags' fresh' = getOrCreate r key name tags fresh := by
  induction r with
  | nil => simp [getOrCreate]
  | cons s rest ih =>
    simp only [getOrCreate]
    split
    · rename_i h; simp [getOrCreate, h]
    · rename_i h
      simp only [getOrCreate, h, ↓reduceIte]
      rw [ih]

theorem getOrCreate_keys (r : Registry β) (key name : Bytes) (tags : Tags) (fresh : β) :
    keysOf (getOrCreate r key name tags fresh).1 = if key ∈ keysOf r then keysOf r else keysOf r ++ [key] := by
  induction r with
  | nil => simp [getOrCreate, keysOf]
  | cons s rest ih =>
    simp only [getOrCreate]
    by_cases h : s.key = key
    · simp [h, keysOf]
    · have h' : ¬ key = s.key := fun e => h e.symm
      simp only [h, ↓reduceIte]
      simp only [keysOf, List.map_cons, List.mem_cons, h', false_or] at ih ⊢
      rw [ih]
      by_cases hm : key ∈ List.map (fun x => x.key) rest
      · simp only [hm, ↓reduceIte]
      · simp only [hm, ↓reduceIte, List.cons_append]

theorem getOrCreate_nodup (r : Registry β) (key name : Bytes) (tags : Tags) (fresh : β)
    (h : (keysOf r).Nodup) : (keysOf (getOrCreate r key name tags fresh).1).Nodup := by
  rw [getOrCreate_keys]
  split
  · exact h
  · rename_i hk
    exact List.nodup_append.mpr ⟨h, List.pairwise_singleton .., fun a ha b hb => by
      rw [List.mem_singleton.mp hb]; exact fun e => hk (e ▸ ha)⟩

theorem modifyAt_keys (r : Registry β) (i : Nat) (f : β → β) : keysOf (modifyAt r i f) = keysOf r := by
  induction r generalizing i with
  | nil => rfl
  | cons s rest ih =>
    cases i with
    | zero => simp [modifyAt, keysOf]
    | succ j =>
      simp only [modifyAt, keysOf, List.map_cons] at ih ⊢
      rw [ih]

theorem touch_keys (r : Registry β) (key name : Bytes) (tags : Tags) (fresh : β) (f : β → β) :
    keysOf (touch r key name tags fresh f) = if key ∈ keysOf r then keysOf r else keysOf r ++ [key] := by
  simp only [touch, modifyAt_keys, getOrCreate_keys]

theorem touch_nodup (r : Registry β) (key name : Bytes) (tags : Tags) (fresh : β) (f : β → β)
    (h : (keysOf r).Nodup) : (keysOf (touch r key name tags fresh f)).Nodup := by
  simp only [touch, modifyAt_keys]
  exact getOrCreate_nodup r key name tags fresh h

theorem mem_keysOf_touch (r : Registry β) (key name : Bytes) (tags : Tags) (fresh : β) (f : β → β) (k : Bytes) :
    k ∈ keysOf (touch r key name tags fresh f) ↔ k ∈ keysOf r ∨ key = k := by
  rw [touch_keys]
  split
  · rename_i h; exact ⟨Or.inl, fun h' => h'.elim id (· ▸ h)⟩
  · simp [eq_comm]

theorem valD_touch (r : Registry β) (key name : Bytes) (tags : Tags) (fresh : β) (f : β → β) (K : Bytes) :
    valD (touch r key name tags fresh f) K fresh = if key = K then f (valD r K fresh) else valD r K fresh := by
  induction r with
  | nil =>
    simp only [touch, getOrCreate, modifyAt, valD, valueOf?]
    by_cases h : key = K <;> simp [h]
  | cons s rest ih =>
    simp only [touch, getOrCreate] at ih ⊢
    by_cases hs : s.key = key
    · simp only [hs, ↓reduceIte, modifyAt, valD, valueOf?]
      by_cases hK : key = K <;> simp [hK]
    · simp only [hs, ↓reduceIte, modifyAt, valD, valueOf?]
      by_cases hK : s.key = K
      · have : ¬ key = K := fun e => hs (hK.trans e.symm)
        simp [hK, this]
      · simp only [hK, ↓reduceIte]
        simpa [valD] using ih

/-- a recorded event: the key it is filed under, the identity given by the caller, what it does -/
structure Ev (β : Type) where
  key : Bytes
  name : Bytes
  tags : Tags
  f : β → β

def applyEvs (fresh : β) (r : Registry β) (es : List (Ev β)) : Registry β :=
  es.foldl (fun r e => touch r e.key e.name e.tags fresh e.f) r

/-- **Every event lands in the series of its key**: after any sequence of events, what is filed under
    `K` is the result of applying, in order, exactly the events whose key is `K`. -/
theorem valD_applyEvs (fresh : β) (es : List (Ev β)) (K : Bytes) (r : Registry β) :
    valD (applyEvs fresh r es) K fresh =
      (es.filter (fun e => decide (e.key = K))).foldl (fun v e => e.f v) (valD r K fresh) := by
  rw [List.foldl_filter]
  exact List.foldl_rel (r := fun r v => valD r K fresh = v) rfl
    fun e _ r v h => by simp only [valD_touch, h, decide_eq_true_eq]

theorem applyEvs_nodup (fresh : β) (es : List (Ev β)) (r : Registry β) (h : (keysOf r).Nodup) :
    (keysOf (applyEvs fresh r es)).Nodup :=
  foldl_preserves (fun r e h => touch_nodup r e.key e.name e.tags fresh e.f h) es h

theorem mem_keysOf_applyEvs (fresh : β) (es : List (Ev β)) (r : Registry β) (k : Bytes) :
    k ∈ keysOf (applyEvs fresh r es) ↔ k ∈ keysOf r ∨ ∃ e ∈ es, e.key = k :=
  foldl_or_exists _ (k ∈ keysOf ·) (fun e : Ev β => e.key = k)
    (fun r e => mem_keysOf_touch r e.key e.name e.tags fresh e.f k) es r

end Registry

theorem wrap64_add_wrap64 (a b : Int) : wrap64 (wrap64 a + b) = wrap64 (a + b) := by
  simp only [wrap64]; exact Int.bmod_add_bmod

theorem wrap64_idem (a : Int) : wrap64 (wrap64 a) = wrap64 a := by
  simp [wrap64]

theorem wrap64_of_range {x : Int} (h1 : -(2 ^ 63) ≤ x) (h2 : x < 2 ^ 63) : wrap64 x = x := by
  unfold wrap64
  apply Int.bmod_eq_of_le <;> omega

/-- the operations after the last `reset` -/
def sinceReset : List CounterOp → List CounterOp
  | [] => []
  | op :: rest => if rest.contains .reset then sinceReset rest else
      (if op = .reset then rest else op :: rest)

def incs (ops : List CounterOp) : Nat := (ops.filter (· = .inc)).length
def adds : List CounterOp → Int
  | [] => 0
  | .add n :: rest => n + adds rest
  | _ :: rest => adds rest

theorem counterRun_cons (v : Int) (op : CounterOp) (ops : List CounterOp) :
    counterRun v (op :: ops) = counterRun (counterStep v op) ops := rfl

theorem counterRun_append (v : Int) (l₁ l₂ : List CounterOp) :
    counterRun v (l₁ ++ l₂) = counterRun (counterRun v l₁) l₂ := List.foldl_append

theorem step_no_reset {op : CounterOp} (h : op ≠ .reset) (rest : List CounterOp) :
    ∃ δ : Int, (∀ v, counterStep v op = wrap64 (v + δ)) ∧
      (incs (op :: rest) : Int) + adds (op :: rest) = δ + ((incs rest : Int) + adds rest) := by
  cases op with
  | inc => exact ⟨1, fun _ => rfl, by simp only [incs, adds, List.filter_cons_of_pos, decide_true, List.length_cons]; omega⟩
  | add n =>
    have : (CounterOp.add n = CounterOp.inc) = False := by simp
    exact ⟨n, fun _ => rfl, by
      simp only [incs, adds, this, decide_false, Bool.false_eq_true, not_false_eq_true, List.filter_cons_of_neg]; omega⟩
  | reset => exact absurd rfl h

theorem counterRun_no_reset : ∀ (ops : List CounterOp) (v : Int), ops.contains .reset = false → wrap64 v = v →
    counterRun v ops = wrap64 (v + ((incs ops : Int) + adds ops))
  | [], v, _, hv => by simp [counterRun, incs, adds, hv]
  | op :: rest, v, h, _ => by
    rw [List.contains_cons, Bool.or_eq_false_iff, beq_eq_false_iff_ne] at h
    obtain ⟨δ, hstep, hsum⟩ := step_no_reset (Ne.symm h.1) rest
    rw [counterRun_cons, hstep, counterRun_no_reset rest _ h.2 (wrap64_idem _), wrap64_add_wrap64, hsum, Int.add_assoc]

theorem sinceReset_spec (ops : List CounterOp) :
    (sinceReset ops).contains .reset = false ∧
    (ops.contains .reset = false → sinceReset ops = ops) ∧
    (ops.contains .reset = true → ∃ pre, ops = pre ++ .reset :: sinceReset ops) := by
  fun_induction sinceReset ops with
  | case1 => exact ⟨rfl, fun _ => rfl, nofun⟩
  | case2 op rest hr ih =>
    obtain ⟨pre, hpre⟩ := ih.2.2 hr
    refine ⟨ih.1, fun h => ?_, fun _ => ⟨op :: pre, congrArg (op :: ·) hpre⟩⟩
    rw [List.contains_cons, hr, Bool.or_true] at h; cases h
  | case3 rest hr => exact ⟨by simpa using hr, by simp, fun _ => ⟨[], rfl⟩⟩
  | case4 op rest hr hop =>
    have hc : (op :: rest).contains .reset = false := by
      rw [List.contains_cons, (Bool.not_eq_true _).mp hr, Bool.or_false]; exact beq_false_of_ne (Ne.symm hop)
    exact ⟨hc, fun _ => rfl, fun h => by rw [hc] at h; cases h⟩

theorem counterRun_zero (ops : List CounterOp) :
    counterRun 0 ops = wrap64 ((incs (sinceReset ops) : Int) + adds (sinceReset ops)) := by
  obtain ⟨h1, h2, h3⟩ := sinceReset_spec ops
  have key : counterRun 0 ops = counterRun 0 (sinceReset ops) := by
    cases hr : ops.contains .reset
    · rw [h2 hr]
    · obtain ⟨pre, hpre⟩ := h3 hr
      conv => lhs; rw [hpre, counterRun_append, counterRun_cons]; simp only [counterStep]
  rw [key, counterRun_no_reset _ _ h1 (by decide), Int.zero_add]

end Wtf.Metrics
