import WtfModel.Proofs.Retry
import WtfModel.Proofs.RetryDelay

/-!
  A `DatabaseRecovery` holding an arbitrary stored configuration `cfg`: the retry loop's specification carried
  through the fallback ladder (`total`, `stops_at`), and the clauses of C15 about counts and waits.
  Props/C15.lean instantiates `cfg` with `sanitize raw`, which is `Sane`, and says there what each clause claims.
-/
namespace Wtf.Retry
open Wtf.Gen

/-- the first rung of the regenerated ladder is the embedded database, which cannot fail: the backup file is
    never consulted -/
theorem climb_ladder (backup : FileState) :
    climb backup Recovery.ladder = some (.embedded, Recovery.embeddedCommands) := by
  simp only [Recovery.ladder, climb, runStrategy, String.reduceBEq, ↓reduceIte]

section
variable (cfg : Cfg) (f : Nat → Attempt) (backup : FileState)

theorem loadWithRetry_spec (hc : 1 ≤ cfg.maxAttempts) :
    LoopSpec cfg f 1 (cfg.maxAttempts.toNat - 1) (loadWithRetry cfg f) := by
  obtain ⟨k, hk⟩ : ∃ k, cfg.maxAttempts.toNat = k + 1 := ⟨cfg.maxAttempts.toNat - 1, by omega⟩
  rw [loadWithRetry, hk]
  exact retryLoop_spec cfg f k 1 none

theorem loadWithFallback_counts :
    (loadWithFallback cfg f backup).attempts = (loadWithRetry cfg f).attempts ∧
    (loadWithFallback cfg f backup).delays = (loadWithRetry cfg f).delays := by
  rw [loadWithFallback, climb_ladder]
  cases (loadWithRetry cfg f).err with
  | none => exact ⟨rfl, rfl⟩
  | some e => exact ⟨rfl, rfl⟩

end
end Wtf.Retry

namespace Wtf.Retry.Stored
open Wtf.Gen

theorem embedded_nonempty : Recovery.embeddedCommands ≠ [] := by decide

section
variable (cfg : Cfg) (f : Nat → Attempt) (backup : FileState)

/-! ### "ends with a searchable database and no error" -/

theorem total (hc : 1 ≤ cfg.maxAttempts) :
    let r := loadWithFallback cfg f backup
    r.err = none ∧ ∃ db, r.db = some db ∧
      ((r.cls = .real ∧ f r.attempts = .ok db) ∨
       (db ≠ [] ∧ ((r.cls = .embedded ∧ db = Recovery.embeddedCommands) ∨ (r.cls = .minimal ∧ db = Recovery.minimalCommands)))) := by
  have hrep := (loadWithRetry_spec cfg f hc).reports
  cases hf : f (loadWithRetry cfg f).attempts with
  | ok db =>
    rw [hf] at hrep
    simp only [loadWithFallback, hrep.1, hrep.2]
    exact ⟨trivial, db, rfl, Or.inl ⟨rfl, hf⟩⟩
  | error e =>
    rw [hf] at hrep
    simp only [loadWithFallback, hrep.2, climb_ladder]
    exact ⟨trivial, _, rfl, Or.inr ⟨embedded_nonempty, Or.inl ⟨trivial, rfl⟩⟩⟩

/-- Attempts `1 … k` are retryable failures and attempt `k + 1 ≤ MaxAttempts` is not: it is the last one, the
    answer is its answer (a failure sends the caller down the ladder), and there was a sleep before each
    attempt but the first. -/
theorem stops_at (k : Nat) (hk : (k : Int) < cfg.maxAttempts)
    (hbad : ∀ n, 1 ≤ n → n ≤ k → Retryable (f n)) (hstop : ¬ Retryable (f (k + 1))) :
    let r := loadWithFallback cfg f backup
    r.attempts = k + 1 ∧ r.delays = (List.range' 1 k).map (delayNs cfg) ∧ r.err = none ∧
    (∀ db, f (k + 1) = .ok db → r.cls = .real ∧ r.db = some db) ∧ (∀ e, f (k + 1) = .error e → r.cls ≠ .real) := by
  have hc : 1 ≤ cfg.maxAttempts := by omega
  have s := loadWithRetry_spec cfg f hc
  have hat : (loadWithRetry cfg f).attempts = k + 1 := by
    have hle : (loadWithRetry cfg f).attempts ≤ k + 1 :=
      Nat.le_of_not_lt fun h => hstop (s.before (k + 1) (by omega) h)
    rcases s.stop with h | h
    · omega
    · exact Nat.le_antisymm hle (Nat.lt_of_not_le fun h' => h (hbad _ s.ge h'))
  have hrep := s.reports
  rw [hat] at hrep
  refine ⟨by rw [(loadWithFallback_counts _ _ _).1, hat],
    by rw [(loadWithFallback_counts _ _ _).2, s.delays (by omega), hat, Nat.add_sub_cancel], ?_⟩
  cases hf : f (k + 1) with
  | ok db =>
    rw [hf] at hrep
    simp [loadWithFallback, hrep.1, hrep.2]
  | error e =>
    rw [hf] at hrep
    simp only [loadWithFallback, hrep.2, climb_ladder]
    exact ⟨trivial, nofun, fun _ _ => nofun⟩

theorem first (hc : 1 ≤ cfg.maxAttempts) (h : ¬ Retryable (f 1)) :
    let r := loadWithFallback cfg f backup
    r.attempts = 1 ∧ r.delays = [] ∧ r.err = none ∧
    (∀ db, f 1 = .ok db → r.cls = .real ∧ r.db = some db) ∧ (∀ e, f 1 = .error e → r.cls ≠ .real) :=
  stops_at cfg f backup 0 (by omega) (fun n h1 h2 => by omega) h

theorem exactly_max (hc : 1 ≤ cfg.maxAttempts) (h : ∀ n, Retryable (f n)) :
    (loadWithFallback cfg f backup).attempts = cfg.maxAttempts.toNat := by
  rw [(loadWithFallback_counts _ _ _).1]
  have := (loadWithRetry_spec cfg f hc).stop.resolve_right fun h' => h' (h _)
  omega

theorem delays_exact (hc : 1 ≤ cfg.maxAttempts) :
    let r := loadWithFallback cfg f backup
    r.delays = (List.range' 1 (r.attempts - 1)).map (delayNs cfg) ∧
    r.delays.length = r.attempts - 1 := by
  intro r
  have hd : r.delays = (List.range' 1 (r.attempts - 1)).map (delayNs cfg) := by
    simp only [r, loadWithFallback_counts]
    exact (loadWithRetry_spec cfg f hc).delays (by omega)
  exact ⟨hd, by rw [hd]; simp⟩

theorem persistent_delays (hc : 1 ≤ cfg.maxAttempts) (h : ∀ n, Retryable (f n)) :
    (loadWithFallback cfg f backup).delays = (List.range' 1 (cfg.maxAttempts.toNat - 1)).map (delayNs cfg) := by
  rw [(delays_exact cfg f backup hc).1, exactly_max cfg f backup hc h]

end

/-! ### "any other failure at most the configured number of times" -/

theorem at_most (cfg : Cfg) (f : Nat → Attempt) (backup : FileState) :
    (loadWithFallback cfg f backup).attempts ≤ cfg.maxAttempts.toNat := by
  rw [(loadWithFallback_counts cfg f backup).1]
  by_cases hc : 1 ≤ cfg.maxAttempts
  · have := (loadWithRetry_spec cfg f hc).le; omega
  · have : cfg.maxAttempts.toNat = 0 := by omega
    simp [loadWithRetry, this, retryLoop]

/-! ### "with waits that never decrease and never exceed the configured maximum" -/

theorem delays (cfg : Cfg) (hs : cfg.Sane) (f : Nat → Attempt) (backup : FileState) :
    let r := loadWithFallback cfg f backup
    r.delays.Pairwise (· ≤ ·) ∧ (∀ d ∈ r.delays, 0 ≤ d ∧ d ≤ cfg.max) ∧ r.delays.length = r.attempts - 1 := by
  intro r
  obtain ⟨hd, hl⟩ := delays_exact cfg f backup hs.1
  refine ⟨?_, ?_, hl⟩
  · simp only [r]; rw [hd]; exact delays_pairwise cfg hs 1 _
  · intro d hdm
    simp only [r] at hdm; rw [hd, List.mem_map] at hdm
    obtain ⟨n, _, rfl⟩ := hdm
    exact ⟨delayNs_nonneg cfg hs n, delayNs_le_max cfg hs.2.2.1 n⟩

theorem transient (cfg : Cfg) (k : Nat) (hk : (k : Int) < cfg.maxAttempts)
    (mainAt personalAt : Nat → FileState) (m p : List Cmd) (backup : FileState)
    (hbad : ∀ n, 1 ≤ n → n ≤ k → (mainAt n).retryable ∨ (∃ m', mainAt n = .good m') ∧ (personalAt n).retryable)
    (hgood : mainAt (k + 1) = .good m)
    (hp : personalAt (k + 1) = .good p ∨ (personalAt (k + 1) = .missing ∧ p = [])) :
    let r := loadWithFallback cfg (dynamic mainAt personalAt) backup
    r.cls = .real ∧ r.db = some (m ++ p) ∧ r.err = none ∧ r.attempts = k + 1 ∧ r.delays.length = k := by
  have hok : dynamic mainAt personalAt (k + 1) = .ok (m ++ p) := by
    simp only [dynamic, hgood]
    rcases hp with hp | ⟨hp, rfl⟩
    · rw [hp]; rfl
    · rw [hp]; simpa using lwp_good_missing m
  obtain ⟨h1, h2, h3, h4, _⟩ := stops_at cfg (dynamic mainAt personalAt) backup k hk
    (fun n h1 h2 => lwp_retryable (hbad n h1 h2)) (not_retryable_ok hok)
  exact ⟨(h4 _ hok).1, (h4 _ hok).2, h3, h1, by rw [h2, List.length_map, List.length_range']⟩

end Wtf.Retry.Stored
