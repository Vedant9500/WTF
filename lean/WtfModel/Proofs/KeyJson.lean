import WtfModel.Model.KeyJson
import WtfModel.Proofs.Decimal
import WtfModel.Proofs.ListBasics

/-!
  The JSON text of the cache key determines the key view (C05).  Core Lean only.

  `quoteBody` byte by byte: `escByte` except where the bytes of U+2028 / U+2029 begin (`quoteBody_cons`, `quoteBody_sep`).
  Every encoder is self-delimiting, `Delim R P enc`: from `enc a ++ r = enc a' ++ r'`, for values satisfying `P` and
  rests satisfying `R`, follow `a = a'` and `r = r'`:
    strings   before any rest, by a decoder: `unquoteBody (quoteBody a ++ '"' :: r) = some (a, r)`
    numbers   before a byte outside the number alphabet (`NumEnd`), their own bytes being inside it (`Delim.ofNum`)
    the rest  `Delim` is closed under a leading byte, two encoders in a row, `,`-separated sequences and null-or-sequence
              (`Delim.cons`, `.append`, `.seq`, `.nullOrSeq`); map entries, values, fields and the object are applications
-/
namespace Wtf.KeyJson
open Wtf.CacheLayer

def unhex (c : UInt8) : Nat := if c.toNat < 58 then c.toNat - 48 else c.toNat - 87

def unshort (e : UInt8) : UInt8 :=
  if e.toNat = 0x62 then 8 else if e.toNat = 0x66 then 12 else if e.toNat = 0x6E then 10
  else if e.toNat = 0x72 then 13 else if e.toNat = 0x74 then 9 else e

/-- the bytes a `\u` escape of the encoder stands for: an ASCII byte, U+2028 / U+2029, or the marker (written `\ufffd`) -/
def unU (code : Nat) : Bytes :=
  if code < 0x80 then [UInt8.ofNat code] else if code = 0x2028 then [0xE2, 0x80, 0xA8]
  else if code = 0x2029 then [0xE2, 0x80, 0xA9] else [0xFF]

/-- reads an escaped string body up to its closing quote: (contents, rest after the quote) -/
def unquoteBody : Bytes → Option (Bytes × Bytes)
  | [] => none
  | c :: r =>
    if c.toNat = 0x22 then some ([], r)
    else if c.toNat = 0x5C then
      match r with
      | [] => none
      | e :: r1 =>
        if e.toNat = 0x75 then
          match r1 with
          | h1 :: h2 :: h3 :: h4 :: r2 =>
            (unquoteBody r2).map (fun p => (unU (((unhex h1 * 16 + unhex h2) * 16 + unhex h3) * 16 + unhex h4) ++ p.1, p.2))
          | _ => none
        else (unquoteBody r1).map (fun p => (unshort e :: p.1, p.2))
    else (unquoteBody r).map (fun p => (c :: p.1, p.2))

theorem unhex_hexDigit (d : Nat) (h : d < 16) : unhex (hexDigit d) = d :=
  (by decide : ∀ d : Fin 16, unhex (hexDigit d.val) = d.val) ⟨d, h⟩

/-- the two-character escapes: (byte, letter after the backslash) -/
def shortTable : List (UInt8 × UInt8) :=
  [(0x22, 0x22), (0x5C, 0x5C), (0x08, 0x62), (0x0C, 0x66), (0x0A, 0x6E), (0x0D, 0x72), (0x09, 0x74)]

inductive EscForm : UInt8 → Bytes → Prop
  | short {b e : UInt8} : (b, e) ∈ shortTable → EscForm b [0x5C, e]
  | u00 {b : UInt8} : b.toNat < 0x80 → EscForm b [0x5C, 0x75, 0x30, 0x30, hexDigit (b.toNat / 16), hexDigit (b.toNat % 16)]
  | bad : EscForm 0xFF [0x5C, 0x75, 0x66, 0x66, 0x66, 0x64]
  | plain {b : UInt8} : 0x20 ≤ b.toNat → b.toNat ≠ 0x22 → b.toNat ≠ 0x5C → EscForm b [b]

theorem escByte_form (b : UInt8) : EscForm b (escByte b) := by
  -- one row of the table; the conditions are taken one at a time because `split` on this chain costs 5 M heartbeats per level
  have row : ∀ (c e : UInt8) {t : Bytes}, (c, e) ∈ shortTable → (b.toNat ≠ c.toNat → EscForm b t) →
      EscForm b (if b.toNat = c.toNat then [0x5C, e] else t) := by
    intro c e t hm ht
    by_cases h : b.toNat = c.toNat
    · rw [if_pos h]; exact .short (UInt8.toNat.inj h ▸ hm)
    · rw [if_neg h]; exact ht h
  unfold escByte
  refine row 0x22 0x22 (by decide) fun h1 => row 0x5C 0x5C (by decide) fun h2 => row 0x08 0x62 (by decide) fun _ =>
    row 0x0C 0x66 (by decide) fun _ => row 0x0A 0x6E (by decide) fun _ => row 0x0D 0x72 (by decide) fun _ =>
    row 0x09 0x74 (by decide) fun _ => ?_
  by_cases h8 : b.toNat < 0x20 ∨ b.toNat = 0x3C ∨ b.toNat = 0x3E ∨ b.toNat = 0x26
  · rw [if_pos h8]; exact .u00 (by omega)
  rw [if_neg h8]
  by_cases h9 : b.toNat = 0xFF
  · rw [if_pos h9, UInt8.toNat.inj (b := 0xFF) h9]; exact .bad
  · rw [if_neg h9]; exact .plain (by omega) h1 h2

/-! ### the string encoder: `quoteBody` is bytewise except where the bytes of U+2028 / U+2029 begin -/

def IsSep (l : Bytes) : Prop := ∃ c t, l = 0xE2 :: 0x80 :: c :: t ∧ (c = 0xA8 ∨ c = 0xA9)

theorem isSep_of {b b1 b2 : UInt8} {t : Bytes} (h0 : b.toNat = 0xE2) (h1 : b1.toNat = 0x80)
    (h2 : b2.toNat = 0xA8 ∨ b2.toNat = 0xA9) : IsSep (b :: b1 :: b2 :: t) :=
  ⟨b2, t, by rw [UInt8.toNat.inj (b := 0xE2) h0, UInt8.toNat.inj (b := 0x80) h1], h2.imp UInt8.toNat.inj UInt8.toNat.inj⟩

theorem not_isSep {b : UInt8} (h : b.toNat ≠ 0xE2) (y : Bytes) : ¬ IsSep (b :: y) :=
  fun ⟨_, _, e, _⟩ => h (congrArg UInt8.toNat (List.cons.inj e).1)

theorem quoteBody_sep (c : UInt8) (hc : c = 0xA8 ∨ c = 0xA9) (t : Bytes) :
    quoteBody (0xE2 :: 0x80 :: c :: t) = u202x (c - 0x70) ++ quoteBody t := by
  rcases hc with rfl | rfl
  · rw [quoteBody, if_pos (by decide)]; rfl
  · rw [quoteBody, if_neg (by decide), if_pos (by decide)]; rfl

theorem quoteBody_cons {b : UInt8} {y : Bytes} (h : ¬ IsSep (b :: y)) : quoteBody (b :: y) = escByte b ++ quoteBody y := by
  match y with
  | [] => simp [quoteBody]
  | [_] => simp [quoteBody]
  | b1 :: b2 :: t =>
    rw [quoteBody, if_neg (fun ⟨x0, x1, x2⟩ => h (isSep_of x0 x1 (.inl x2))),
      if_neg (fun ⟨x0, x1, x2⟩ => h (isSep_of x0 x1 (.inr x2)))]

theorem escByte_hi {b : UInt8} (h : 0x80 ≤ b.toNat) (h' : b.toNat ≠ 0xFF) : escByte b = [b] := by
  unfold escByte
  simp only
  rw [if_neg (by omega), if_neg (by omega), if_neg (by omega), if_neg (by omega), if_neg (by omega), if_neg (by omega),
    if_neg (by omega), if_neg (by omega), if_neg (by omega)]

theorem quoteBody_conts {pre : Bytes} (h : ∀ x ∈ pre, 0x80 ≤ x.toNat ∧ x.toNat ≤ 0xBF) (y : Bytes) :
    quoteBody (pre ++ y) = pre ++ quoteBody y := by
  induction pre with
  | nil => rfl
  | cons x t ih =>
    have hx := h x (by simp)
    rw [List.cons_append, quoteBody_cons (not_isSep (by omega) _), escByte_hi (by omega) (by omega),
      ih (fun z hz => h z (by simp [hz]))]
    rfl

theorem unquoteBody_quote (r : Bytes) : unquoteBody (0x22 :: r) = some ([], r) := by
  rw [unquoteBody.eq_def]; rfl

theorem unquoteBody_plain {c : UInt8} (h1 : c.toNat ≠ 0x22) (h2 : c.toNat ≠ 0x5C) (r : Bytes) :
    unquoteBody (c :: r) = (unquoteBody r).map (fun p => (c :: p.1, p.2)) := by
  rw [unquoteBody.eq_def]
  simp only [if_neg h1, if_neg h2]

theorem unquoteBody_short {e : UInt8} (h : e.toNat ≠ 0x75) (r : Bytes) :
    unquoteBody (0x5C :: e :: r) = (unquoteBody r).map (fun p => (unshort e :: p.1, p.2)) := by
  rw [unquoteBody.eq_def]
  simp only [if_neg (show (0x5C : UInt8).toNat ≠ 0x22 by decide), if_pos (show (0x5C : UInt8).toNat = 0x5C by decide), if_neg h]

theorem unquoteBody_u (h1 h2 h3 h4 : UInt8) (r : Bytes) :
    unquoteBody (0x5C :: 0x75 :: h1 :: h2 :: h3 :: h4 :: r) =
      (unquoteBody r).map (fun p => (unU (((unhex h1 * 16 + unhex h2) * 16 + unhex h3) * 16 + unhex h4) ++ p.1, p.2)) := by
  rw [unquoteBody.eq_def]; rfl

theorem shortTable_unshort : ∀ p ∈ shortTable, p.2.toNat ≠ 0x75 ∧ unshort p.2 = p.1 := by decide

theorem unquoteBody_escByte (b : UInt8) (x : Bytes) :
    unquoteBody (escByte b ++ x) = (unquoteBody x).map (fun p => (b :: p.1, p.2)) := by
  have hf := escByte_form b
  generalize escByte b = t at hf
  cases hf with
  | short hm =>
    obtain ⟨he, hb⟩ := shortTable_unshort _ hm
    rw [List.cons_append, List.cons_append, List.nil_append, unquoteBody_short he, hb]
  | u00 hb =>
    simp only [List.cons_append, List.nil_append]
    rw [unquoteBody_u, unhex_hexDigit _ (by omega), unhex_hexDigit _ (by omega), show unhex 0x30 = 0 by decide,
      show ((0 * 16 + 0) * 16 + b.toNat / 16) * 16 + b.toNat % 16 = b.toNat by omega, unU, if_pos hb, UInt8.ofNat_toNat]
    rfl
  | bad => exact unquoteBody_u 0x66 0x66 0x66 0x64 x
  | plain _ h1 h2 => exact unquoteBody_plain h1 h2 x

/-- along the cases of `quoteBody`: the end, one of the two separators, or one byte -/
theorem unquoteBody_quoteBody (a r : Bytes) : unquoteBody (quoteBody a ++ 0x22 :: r) = some (a, r) := by
  fun_induction quoteBody a with
  | case1 => exact unquoteBody_quote r
  | case2 b b1 b2 t h ih =>
    obtain ⟨rfl, rfl, rfl⟩ : b = 0xE2 ∧ b1 = 0x80 ∧ b2 = 0xA8 :=
      ⟨UInt8.toNat.inj h.1, UInt8.toNat.inj h.2.1, UInt8.toNat.inj h.2.2⟩
    rw [u202x]
    simp only [List.cons_append, List.nil_append]
    rw [unquoteBody_u, ih]; rfl
  | case3 b b1 b2 t _ h ih =>
    obtain ⟨rfl, rfl, rfl⟩ : b = 0xE2 ∧ b1 = 0x80 ∧ b2 = 0xA9 :=
      ⟨UInt8.toNat.inj h.1, UInt8.toNat.inj h.2.1, UInt8.toNat.inj h.2.2⟩
    rw [u202x]
    simp only [List.cons_append, List.nil_append]
    rw [unquoteBody_u, ih]; rfl
  | case4 b b1 b2 t _ _ ih => rw [List.append_assoc, unquoteBody_escByte, ih]; rfl
  | case5 b t _ ih => rw [List.append_assoc, unquoteBody_escByte, ih]; rfl

theorem quote_delim {a a' r r' : Bytes} (h : quote a ++ r = quote a' ++ r') : a = a' ∧ r = r' := by
  unfold quote at h
  simp only [List.cons_append, List.append_assoc, List.cons.injEq, true_and, List.nil_append] at h
  have h1 := unquoteBody_quoteBody a r
  rw [h, unquoteBody_quoteBody] at h1
  simpa using h1.symm

theorem quote_inj {a a' : Bytes} (h : quote a = quote a') : a = a' :=
  (quote_delim (congrArg (· ++ []) h)).1

/-! pass 1 copies what utf8.DecodeRune accepts -/

theorem coerceAux_copy (pre rest : Bytes) : coerceAux pre.length (pre ++ rest) = pre ++ coerceAux 0 rest := by
  induction pre with
  | nil => rfl
  | cons b t ih => simp [coerceAux, ih]

theorem coerceAux_rune (b : UInt8) (t rest : Bytes) (c : Nat)
    (hd : Utf8.decodeRune (b :: (t ++ rest)) = (c, t.length + 1)) (hc : ¬ (c = Utf8.runeError ∧ t.length = 0)) :
    coerceAux 0 (b :: (t ++ rest)) = b :: (t ++ coerceAux 0 rest) := by
  rw [coerceAux]
  simp only [hd]
  have : ¬ (c == Utf8.runeError && t.length + 1 == 1) = true := by
    simp only [Bool.and_eq_true, beq_iff_eq]
    exact fun h => hc ⟨h.1, by omega⟩
  rw [if_neg this]
  simp [coerceAux_copy]

def EndOf (A : UInt8 → Prop) : Bytes → Prop
  | [] => True
  | c :: _ => ¬ A c

theorem span_delim {A : UInt8 → Prop} {xs ys r r' : Bytes} (h : xs ++ r = ys ++ r') (hx : ∀ c ∈ xs, A c) (hy : ∀ c ∈ ys, A c)
    (hr : EndOf A r) (hr' : EndOf A r') : xs = ys ∧ r = r' := by
  -- byte by byte; when one string ends first, the other's next byte is in `A` and begins the first one's rest
  induction xs generalizing ys with
  | nil =>
    cases ys with
    | nil => exact ⟨rfl, h⟩
    | cons c t => cases (show r = c :: (t ++ r') from h); exact absurd (hy c (by simp)) hr
  | cons c t ih =>
    cases ys with
    | nil => cases (show c :: (t ++ r) = r' from h); exact absurd (hx c (by simp)) hr'
    | cons c' t' =>
      obtain ⟨rfl, ht⟩ := List.cons.inj h
      exact (ih ht (fun a ha => hx a (by simp [ha])) (fun a ha => hy a (by simp [ha]))).imp_left (congrArg _)

def NumEnd : Bytes → Prop := EndOf (fun c => numChar c = true)

def Delim {α : Type} (R : Bytes → Prop) (P : α → Prop) (enc : α → Bytes) : Prop :=
  ∀ ⦃a a' r r'⦄, P a → P a' → R r → R r' → enc a ++ r = enc a' ++ r' → a = a' ∧ r = r'

abbrev AnyRest : Bytes → Prop := fun _ => True

section closure
variable {α β : Type} {R : Bytes → Prop} {P : α → Prop} {enc : α → Bytes}

theorem Delim.ofNum (ha : ∀ a, P a → ∀ c ∈ enc a, numChar c = true) (hi : ∀ a a', P a → P a' → enc a = enc a' → a = a') :
    Delim NumEnd P enc :=
  fun _ _ _ _ hp hp' hr hr' h => (span_delim h (ha _ hp) (ha _ hp') hr hr').imp_left (hi _ _ hp hp')

theorem Delim.cons (c : UInt8) (h : Delim R P enc) : Delim R P (fun a => c :: enc a) :=
  fun _ _ _ _ hp hp' hr hr' e => h hp hp' hr hr' (List.cons.inj e).2

/-- what the second encoder accepts may depend on the first value (`encPresent_Delim`: the kind of a field on its name) -/
theorem Delim.append {Q : α → β → Prop} {enc₂ : β → Bytes} (h₁ : Delim AnyRest P enc) (h₂ : ∀ a, Delim R (Q a) enc₂) :
    Delim R (fun p : α × β => P p.1 ∧ Q p.1 p.2) (fun p => enc p.1 ++ enc₂ p.2) := by
  intro p p' r r' hp hp' hr hr' h
  simp only [List.append_assoc] at h
  obtain ⟨e1, e2⟩ := h₁ hp.1 hp'.1 trivial trivial h
  obtain ⟨e3, e4⟩ := h₂ _ hp.2 (e1 ▸ hp'.2) hr hr' e2
  exact ⟨Prod.ext e1 e3, e4⟩

theorem joinTail_numEnd (close : UInt8) (hc : close = 0x7D ∨ close = 0x5D) (l : List Bytes) (r : Bytes) :
    NumEnd (joinTail close l ++ r) := by
  cases l with
  | nil => rcases hc with rfl | rfl <;> (show ¬ numChar _ = true) <;> decide
  | cons x t => show ¬ numChar 0x2C = true; decide

theorem joinTail_delim (close : UInt8) (hc : close = 0x7D ∨ close = 0x5D)
    (hd : Delim NumEnd P enc) (l l' : List α) (r r' : Bytes) (hl : ∀ a ∈ l, P a) (hl' : ∀ a ∈ l', P a)
    (h : joinTail close (l.map enc) ++ r = joinTail close (l'.map enc) ++ r') : l = l' ∧ r = r' := by
  have hne : close ≠ 0x2C := by rcases hc with rfl | rfl <;> decide
  induction l generalizing l' with
  | nil =>
    cases l' with
    | nil => simpa [joinTail] using h
    | cons x t =>
      simp only [List.map_nil, joinTail, List.cons_append, List.nil_append, List.map_cons, List.cons.injEq] at h
      exact (hne h.1).elim
  | cons x t ih =>
    cases l' with
    | nil =>
      simp only [List.map_nil, joinTail, List.cons_append, List.nil_append, List.map_cons, List.cons.injEq] at h
      exact (hne h.1.symm).elim
    | cons x' t' =>
      simp only [List.map_cons, joinTail, List.cons_append, List.cons.injEq, true_and, List.append_assoc] at h
      obtain ⟨rfl, e2⟩ :=
        hd (hl x (by simp)) (hl' x' (by simp)) (joinTail_numEnd close hc _ r) (joinTail_numEnd close hc _ r') h
      exact (ih t' (fun a ha => hl a (by simp [ha])) (fun a ha => hl' a (by simp [ha])) e2).imp_left (congrArg _)

theorem Delim.seq (close : UInt8) (hc : close = 0x7D ∨ close = 0x5D)
    (hd : Delim NumEnd P enc) (hq : ∀ a, ∃ t, enc a = 0x22 :: t) :
    Delim AnyRest (fun l : List α => ∀ a ∈ l, P a) (fun l => joinClose close (l.map enc)) := by
  intro l l' r r' hl hl' _ _ h
  have hne : close ≠ 0x22 := by rcases hc with rfl | rfl <;> decide
  cases l with
  | nil =>
    cases l' with
    | nil => simpa [joinClose] using h
    | cons x t =>
      obtain ⟨u, hu⟩ := hq x
      simp only [List.map_nil, joinClose, List.cons_append, List.nil_append, List.map_cons, hu, List.cons.injEq] at h
      exact (hne h.1).elim
  | cons x t =>
    cases l' with
    | nil =>
      obtain ⟨u, hu⟩ := hq x
      simp only [List.map_nil, joinClose, List.cons_append, List.nil_append, List.map_cons, hu, List.cons.injEq] at h
      exact (hne h.1.symm).elim
    | cons x' t' =>
      -- with a comma in front, both sides are `joinTail`s
      exact joinTail_delim close hc hd (x :: t) (x' :: t') r r' hl hl' (congrArg (0x2C :: ·) h)

def optSeq {α : Type} (op cl : UInt8) (enc : α → Bytes) : Option (List α) → Bytes
  | none => nullText
  | some l => op :: joinClose cl (l.map enc)

/-- `null` begins with `n`, the bracket does not; then element by element -/
theorem Delim.nullOrSeq {op cl : UInt8} (hc : cl = 0x7D ∨ cl = 0x5D) (hop : op ≠ 0x6E) (hd : Delim NumEnd P enc)
    (hq : ∀ a, ∃ t, enc a = 0x22 :: t) :
    Delim AnyRest (fun l : Option (List α) => ∀ m, l = some m → ∀ a ∈ m, P a) (optSeq op cl enc) := by
  intro l l' r r' hl hl' _ _ h
  match l, l', hl, hl', h with
  | none, none, _, _, h => exact ⟨rfl, List.append_cancel_left h⟩
  | none, some _, _, _, h => exact absurd (List.cons.inj h).1.symm hop
  | some _, none, _, _, h => exact absurd (List.cons.inj h).1 hop
  | some m, some m', hl, hl', h =>
    exact ((Delim.seq cl hc hd hq).cons op (hl m rfl) (hl' m' rfl) trivial trivial h).imp_left (congrArg _)

end closure

theorem quote_Delim {R : Bytes → Prop} : Delim R (fun _ : Bytes => True) quote :=
  fun _ _ _ _ _ _ _ _ h => quote_delim h

theorem intText_Delim : Delim NumEnd (fun _ : Int => True) intText :=
  .ofNum (fun i _ => intText_numChar i) fun _ _ _ _ => intText_inj

/-- a float the formatter is specified for -/
def FinBits (b : Nat) : Prop := finiteBits b = true ∧ b < 2 ^ 64

theorem fmt_Delim {fmt : Nat → Bytes} (hf : FloatFmtOK fmt) : Delim NumEnd FinBits fmt :=
  .ofNum (fun b hb => hf.alphabet b hb.2 hb.1) (fun b b' hb hb' => hf.inj b b' hb.2 hb'.2 hb.1 hb'.1)

theorem encEntry_Delim {fmt : Nat → Bytes} (hf : FloatFmtOK fmt) :
    Delim NumEnd (fun kv : Bytes × Nat => True ∧ FinBits kv.2) (encEntry fmt) :=
  quote_Delim.append fun _ => (fmt_Delim hf).cons 0x3A

/-- json.Marshal accepts the value (no NaN / ±Inf) and its float patterns are 64-bit patterns -/
def ValOK (v : Val) : Prop := v.marshalOK = true ∧ bitsOK v = true

theorem ValOK.entries {m : List (Bytes × Nat)} (hv : ValOK (.boosts (some m))) : ∀ kv ∈ m, True ∧ FinBits kv.2 := by
  intro kv hkv
  have h1 := hv.1; have h2 := hv.2
  simp only [Val.marshalOK, bitsOK, Option.getD_some, List.all_eq_true, decide_eq_true_eq] at h1 h2
  exact ⟨trivial, h1 kv hkv, h2 kv hkv⟩

theorem encVal_Delim {fmt : Nat → Bytes} (hf : FloatFmtOK fmt) (k : Kind) :
    Delim NumEnd (fun v => kindOf v = k ∧ ValOK v) (encVal fmt) := by
  intro v v' r r' ⟨hk, hv⟩ ⟨hk', hv'⟩ hr hr' h
  have hk := hk.trans hk'.symm
  cases v <;> cases v' <;> try cases hk
  case int.int i j => exact (intText_Delim trivial trivial hr hr' h).imp_left (congrArg _)
  case bool.bool b c =>
    cases b <;> cases c <;> simp [encVal, trueText, falseText] at h
    · exact ⟨rfl, h⟩
    · exact ⟨rfl, h⟩
  case float.float b c =>
    exact (fmt_Delim hf ⟨hv.1, by simpa [bitsOK] using hv.2⟩ ⟨hv'.1, by simpa [bitsOK] using hv'.2⟩ hr hr'
      h).imp_left (congrArg _)
  case str.str s s' => exact (quote_delim h).imp_left (congrArg _)
  case strs.strs l l' =>
    have e : ∀ l, encVal fmt (.strs l) = optSeq 0x5B 0x5D quote l := fun l => by cases l <;> rfl
    rw [e, e] at h
    exact (Delim.nullOrSeq (.inr rfl) (by decide) quote_Delim (fun _ => ⟨_, rfl⟩)
      (fun _ _ _ _ => trivial) (fun _ _ _ _ => trivial) trivial trivial h).imp_left (congrArg _)
  case boosts.boosts m m' =>
    have e : ∀ m, encVal fmt (.boosts m) = optSeq 0x7B 0x7D (encEntry fmt) m := fun m => by cases m <;> rfl
    rw [e, e] at h
    exact (Delim.nullOrSeq (.inl rfl) (by decide) (encEntry_Delim hf) (fun _ => ⟨_, rfl⟩)
      (fun _ e => (e ▸ hv).entries) (fun _ e => (e ▸ hv').entries) trivial trivial h).imp_left (congrArg _)

/-- json names: distinct as byte strings, and free of `"` (so that `"name":` is self-delimiting; the translator asserts the
    stronger "plain ASCII letters, digits, underscore", which also rules out HTML escaping of names) -/
def NamesOK (names : List String) : Prop :=
  (names.map lit).Nodup ∧ ∀ n ∈ names, ∀ c ∈ lit n, c ≠ 0x22

theorem jname_Delim {names : List String} (hn : NamesOK names) : Delim AnyRest (· ∈ names) jname := by
  intro n n' x x' h h' _ _ e
  unfold jname at e
  simp only [List.cons_append, List.append_assoc, List.cons.injEq, true_and, List.nil_append] at e
  -- the name is free of `"`, and `"` follows it
  obtain ⟨e1, e2⟩ := span_delim (A := (· ≠ 0x22)) e (hn.2 _ h) (hn.2 _ h') (fun h => h rfl) (fun h => h rfl)
  exact ⟨inj_of_nodup_map lit hn.1 h h' e1, by simpa using e2⟩

def present (ko : KeyOpts) : List (String × Val) := ko.filterMap (fun e => e.2.map (fun v => (e.1, v)))

def encPresent (fmt : Nat → Bytes) (e : String × Val) : Bytes := jname e.1 ++ encVal fmt e.2

theorem objText_eq (fmt : Nat → Bytes) (ko : KeyOpts) :
    objText fmt ko = 0x7B :: joinClose 0x7D ((present ko).map (encPresent fmt)) := by
  unfold objText present
  rw [List.map_filterMap]
  congr 3
  funext ⟨n, ov⟩
  cases ov <;> rfl

def EntryOK (names : List String) (K : String → Kind) (e : String × Val) : Prop :=
  e.1 ∈ names ∧ kindOf e.2 = K e.1 ∧ ValOK e.2

theorem encPresent_Delim {fmt : Nat → Bytes} (hf : FloatFmtOK fmt) {names : List String} (hn : NamesOK names)
    (K : String → Kind) : Delim NumEnd (EntryOK names K) (encPresent fmt) :=
  (jname_Delim hn).append fun n => encVal_Delim hf (K n)

theorem mem_present {ko : KeyOpts} {e : String × Val} (h : e ∈ present ko) : (e.1, some e.2) ∈ ko := by
  obtain ⟨⟨n, ov⟩, ha, h2⟩ := List.mem_filterMap.mp h
  obtain ⟨v, rfl, rfl⟩ := Option.map_eq_some_iff.mp h2
  exact ha

theorem present_inj : ∀ {ko ko' : KeyOpts}, ko.map (·.1) = ko'.map (·.1) → (ko.map (·.1)).Nodup →
    present ko = present ko' → ko = ko'
  | [], [], _, _, _ => rfl
  | [], _ :: _, hn, _, _ => nomatch hn
  | _ :: _, [], hn, _, _ => nomatch hn
  | (n, ov) :: t, (n', ov') :: t', hn, hd, h => by
    obtain ⟨rfl, ht⟩ := List.cons.inj hn
    obtain ⟨h1, hdt⟩ := List.nodup_cons.mp hd
    -- a present field of a record with the names of `t` is not called `n`
    have notin : ∀ {l : KeyOpts} {v : Val}, l.map (·.1) = t.map (·.1) → (n, v) ∉ present l :=
      fun hl hm => h1 (hl ▸ List.mem_map.mpr ⟨_, mem_present hm, rfl⟩)
    -- `present` drops an absent field and keeps a present one (by unfolding)
    match ov, ov', h with
    | none, none, h => rw [present_inj ht hdt h]
    | none, some v', h => exact (notin rfl ((show present t = (n, v') :: present t' from h) ▸ List.mem_cons_self)).elim
    | some v, none, h => exact (notin ht.symm ((show (n, v) :: present t = present t' from h) ▸ List.mem_cons_self)).elim
    | some v, some v', h =>
      obtain ⟨e, h⟩ := List.cons.inj (show (n, v) :: present t = (n, v') :: present t' from h)
      rw [(Prod.mk.inj e).2, present_inj ht hdt h]

def KoOK (names : List String) (K : String → Kind) (ko : KeyOpts) : Prop :=
  ko.map (·.1) = names ∧ ∀ n v, (n, some v) ∈ ko → kindOf v = K n ∧ ValOK v

theorem objText_Delim {fmt : Nat → Bytes} (hf : FloatFmtOK fmt) {names : List String} (hn : NamesOK names)
    (K : String → Kind) : Delim AnyRest (KoOK names K) (objText fmt) := by
  intro ko ko' r r' hk hk' _ _ h
  rw [objText_eq, objText_eq] at h
  have ok : ∀ {l : KeyOpts}, KoOK names K l → ∀ e ∈ present l, EntryOK names K e := fun hl e he =>
    ⟨hl.1 ▸ List.mem_map.mpr ⟨_, mem_present he, rfl⟩, hl.2 _ _ (mem_present he)⟩
  obtain ⟨e1, e2⟩ := ((encPresent_Delim hf hn K).seq 0x7D (.inl rfl) (fun _ => ⟨_, rfl⟩)).cons 0x7B (ok hk) (ok hk')
    trivial trivial h
  refine ⟨present_inj (hk.1.trans hk'.1.symm) ?_ e1, e2⟩
  rw [hk.1]
  exact nodup_of_nodup_map lit hn.1

theorem jsonText_inj {fmt : Nat → Bytes} (hf : FloatFmtOK fmt) {names : List String} (hn : NamesOK names)
    {K : String → Kind} (qn on : String) {q q' : Query} {ko ko' : KeyOpts}
    (hk : KoOK names K ko) (hk' : KoOK names K ko')
    (h : jsonText fmt qn on q ko = jsonText fmt qn on q' ko') : coerce q = coerce q' ∧ ko = ko' := by
  unfold jsonText goString at h
  simp only [List.cons.injEq, true_and] at h
  obtain ⟨e1, e2⟩ := quote_delim (List.append_cancel_left h)
  simp only [List.cons.injEq, true_and] at e2
  have e2 := List.append_cancel_left e2
  exact ⟨e1, (objText_Delim hf hn K hk hk' trivial trivial e2).1⟩

theorem jsonText_head (fmt : Nat → Bytes) (qn on : String) (q : Query) (ko : KeyOpts) :
    ∃ t, jsonText fmt qn on q ko = 0x7B :: t := ⟨_, rfl⟩

def jsonNames (sh : Shape) : List String := sh.keyFields.map (·.2.2.1)

/-- kind declared for a json name (first field with that name) -/
def kindTable (sh : Shape) (n : String) : Kind :=
  match sh.keyFields.find? (fun kf => kf.2.2.1 == n) with
  | some kf => (kindOfGo kf.2.1).getD .int
  | none => .int

/-- The request is a well-typed Go value: every key field receives a value of the kind its Go type says (one of the six
    modelled kinds), with 64-bit float patterns.  (The Go compiler guarantees it; the model's `Opts` are untyped.) -/
def Typed (sh : Shape) (o : Opts) : Prop :=
  ∀ kf ∈ sh.keyFields, kindOfGo kf.2.1 = some (kindOf (fieldVal sh o kf)) ∧ bitsOK (fieldVal sh o kf) = true

theorem kindOfGo_some {t : String} (h : (kindOfGo t).isSome = true) :
    t ∈ ["int", "bool", "float64", "string", "[]string", "map[string]float64"] := by
  refine Decidable.byContradiction fun ht => ?_
  simp only [List.mem_cons, List.not_mem_nil, or_false, not_or] at ht
  simp [kindOfGo, ht] at h

theorem zeroOf_typed {t : String} (h : (kindOfGo t).isSome = true) :
    kindOfGo t = some (kindOf (zeroOf t)) ∧ bitsOK (zeroOf t) = true :=
  (by decide : ∀ t ∈ ["int", "bool", "float64", "string", "[]string", "map[string]float64"],
    kindOfGo t = some (kindOf (zeroOf t)) ∧ bitsOK (zeroOf t) = true) t (kindOfGo_some h)

theorem kindOf_json (utf8 : Bytes → Bytes) (v : Val) : kindOf (v.json utf8) = kindOf v := by
  cases v <;> rfl

theorem ValOK_json (utf8 : Bytes → Bytes) {v : Val} (h1 : v.marshalOK = true) (h2 : bitsOK v = true) :
    ValOK (v.json utf8) := by
  cases v with
  | boosts m =>
    -- pass 1 touches the keys only
    cases m with
    | none => exact ⟨rfl, rfl⟩
    | some m =>
      exact ⟨by simpa [Val.json, Val.marshalOK, List.all_map, Function.comp_def] using h1,
        by simpa [Val.json, bitsOK, List.all_map, Function.comp_def] using h2⟩
  | _ => exact ⟨h1, h2⟩

theorem proj_KoOK (utf8 : Bytes → Bytes) {sh : Shape} (hd : (jsonNames sh).Nodup) {o : Opts}
    (ht : Typed sh o) (hm : marshalOK sh o = true) : KoOK (jsonNames sh) (kindTable sh) (proj utf8 sh o) := by
  refine ⟨by simp [proj, jsonNames], fun n v hmem => ?_⟩
  obtain ⟨kf, hkf, he⟩ := List.mem_map.mp hmem
  obtain ⟨rfl, hv⟩ := Prod.mk.inj he
  unfold jsonView at hv
  split at hv
  · cases hv
  · cases hv
    have h1 := ht kf hkf
    refine ⟨?_, ValOK_json utf8 (List.all_eq_true.mp hm kf hkf) h1.2⟩
    rw [kindOf_json, kindTable, find?_of_nodup_map (fun kf : String × String × String × Bool => kf.2.2.1) hd hkf]
    simp [h1.1]

/-- THE TEXT DETERMINES THE VIEW (JSON family): requests whose views differ have different texts. -/
theorem jsonText_proj_inj {fmt : Nat → Bytes} (hf : FloatFmtOK fmt) (utf8 : Bytes → Bytes) {sh : Shape}
    (hn : NamesOK (jsonNames sh)) (qn on : String) {q q' : Query} {o o' : Opts}
    (ht : Typed sh o) (ht' : Typed sh o') (hm : marshalOK sh o = true) (hm' : marshalOK sh o' = true)
    (h : jsonText fmt qn on q (proj utf8 sh o) = jsonText fmt qn on q' (proj utf8 sh o')) :
    coerce q = coerce q' ∧ proj utf8 sh o = proj utf8 sh o' :=
  jsonText_inj hf hn qn on (proj_KoOK utf8 (nodup_of_nodup_map lit hn.1) ht hm) (proj_KoOK utf8 (nodup_of_nodup_map lit hn.1) ht' hm') h

variable {Db Ans κ : Type}

/-- the normaliser's output is valid UTF-8 (strings.ToLower: an ASCII-only string is mapped bytewise, any other is rebuilt
    rune by rune by strings.Map, which writes U+FFFD for an invalid byte); so pass 1 leaves the query alone -/
def NormValid (E : Env Db Ans κ) : Prop := ∀ q, coerce (E.normQ q) = E.normQ q

/-- the two key families never meet before hashing: a Go-syntax text is not a JSON text -/
theorem families_disjoint {goText : Query → List (String × Val) → Bytes} (hg : GoTextOK goText) (fmt : Nat → Bytes)
    (qn on : String) (q q' : Query) (ko : KeyOpts) (vals : List (String × Val)) :
    jsonText fmt qn on q ko ≠ goText q' vals := by
  obtain ⟨t, ht⟩ := hg.head q' vals
  simp [jsonText, ht]

/-- the JSON family alone: both requests are ones json.Marshal accepts; nothing is assumed of the `%#v` text -/
theorem keyText_keyOf_inj_json {fmt : Nat → Bytes} (hf : FloatFmtOK fmt) (goText : Query → List (String × Val) → Bytes)
    (E : Env Db Ans κ) (hv : NormValid E) {sh : Shape} (hn : NamesOK (jsonNames sh))
    (qn on : String) {q q' : Query} {o o' : Opts} (ht : Typed sh o) (ht' : Typed sh o')
    (hm : marshalOK sh o = true) (hm' : marshalOK sh o' = true)
    (h : keyText fmt goText qn on (keyOf E sh q o) = keyText fmt goText qn on (keyOf E sh q' o')) :
    keyOf E sh q o = keyOf E sh q' o' := by
  unfold keyOf at h ⊢
  rw [if_pos hm, if_pos hm'] at h ⊢
  obtain ⟨e1, e2⟩ := jsonText_proj_inj hf E.utf8 hn qn on ht ht' hm hm' h
  rw [hv, hv] at e1
  rw [e1, e2]

/-- THE TEXT DETERMINES THE KEY's PRE-IMAGE, for both families. -/
theorem keyText_keyOf_inj {fmt : Nat → Bytes} (hf : FloatFmtOK fmt) {goText : Query → List (String × Val) → Bytes}
    (hg : GoTextOK goText) (E : Env Db Ans κ) (hv : NormValid E) {sh : Shape} (hn : NamesOK (jsonNames sh))
    (qn on : String) {q q' : Query} {o o' : Opts} (ht : Typed sh o) (ht' : Typed sh o')
    (h : keyText fmt goText qn on (keyOf E sh q o) = keyText fmt goText qn on (keyOf E sh q' o')) :
    keyOf E sh q o = keyOf E sh q' o' := by
  by_cases hm : marshalOK sh o = true <;> by_cases hm' : marshalOK sh o' = true
  · exact keyText_keyOf_inj_json hf goText E hv hn qn on ht ht' hm hm' h
  · unfold keyOf at h; rw [if_pos hm, if_neg hm'] at h
    exact absurd h (families_disjoint hg fmt qn on _ _ _ _)
  · unfold keyOf at h; rw [if_neg hm, if_pos hm'] at h
    exact absurd h.symm (families_disjoint hg fmt qn on _ _ _ _)
  · unfold keyOf at h ⊢; rw [if_neg hm, if_neg hm'] at h ⊢
    obtain ⟨e1, e2⟩ := hg.inj _ _ _ _ h
    rw [e1, e2]

end Wtf.KeyJson
