import WtfModel.Model.Validate

/-!
  Facts about the code-point level steps of `Model/Validate.lean`: `fields`, `joinSp`, `trimSpace`, the additive
  `weight`s that collapsing white space does not increase, and the small table facts (proved by evaluation over the
  regenerated `Gen.Validate` lists).
-/
namespace Wtf.Validate

theorem isSpace_sp : isSpace 0x20 = true := by decide
theorem isControl_sp : isControl 0x20 = false := by decide
theorem isMeta_sp : isMeta 0x20 = false := by decide
theorem scalar_sp : scalar 0x20 := by decide
theorem isSpace_FFFD : isSpace 0xFFFD = false := by decide

/-- every control character that the sanitising loop exempts is white space (so `Fields` removes it) -/
theorem keptControls_space : Wtf.Gen.Validate.keptControls.all isSpace = true := by decide

theorem metaChars_plain :
    Wtf.Gen.Validate.metaChars.all (fun c => !isSpace c && !isControl c && decide (c < 0x80)) = true := by decide

theorem isMeta_eq_shell (c : Nat) : isMeta c = isShellMeta c := by
  rw [Bool.eq_iff_iff]
  simp only [isMeta, isShellMeta, Wtf.Gen.Validate.metaChars, shellMetas, List.contains_eq_mem, List.mem_cons,
    List.not_mem_nil, or_false, decide_eq_true_eq]
  try omega -- needed when the regenerated list comes in another order

/-- every white-space range ends below the surrogates -/
theorem space_scalar {c : Nat} (h : isSpace c = true) : scalar c := by
  obtain ⟨r, hr, h2⟩ := List.any_eq_true.mp h
  have hr2 : r.2 < 0xD800 :=
    of_decide_eq_true (List.all_eq_true.mp (by decide : spaceRanges.all (fun r => decide (r.2 < 0xD800)) = true) r hr)
  have : c ≤ r.2 := of_decide_eq_true (Bool.and_eq_true_iff.mp h2).2
  exact ⟨by omega, by omega⟩

theorem maxQueryLength_eq : maxQueryLength = 1000 := by decide
theorem maxLimit_eq : maxLimit = 100 := by decide

theorem kept_control_space {c : Nat} (hk : kept c = true) (hc : isControl c = true) : isSpace c = true :=
  List.all_eq_true.mp keptControls_space c (by simpa [kept, hc] using hk)

theorem kept_of_not_control {c : Nat} (hc : isControl c = false) : kept c = true := by simp [kept, hc]

theorem not_control_of_kept_nonspace {c : Nat} (hk : kept c = true) (hs : isSpace c = false) : isControl c = false := by
  cases h : isControl c
  · rfl
  · rw [kept_control_space hk h] at hs; cases hs

theorem meta_plain {c : Nat} (hm : isMeta c = true) : isSpace c = false ∧ isControl c = false ∧ c < 0x80 := by
  have := List.all_eq_true.mp metaChars_plain c (by simpa [isMeta] using hm)
  simp only [Bool.and_eq_true, Bool.not_eq_true', decide_eq_true_eq] at this
  exact ⟨this.1.1, this.1.2, this.2⟩

theorem meta_kept {c : Nat} (hm : isMeta c = true) : kept c = true := kept_of_not_control (meta_plain hm).2.1

theorem fields_space {c : Nat} {cs : List Nat} (h : isSpace c = true) : fields (c :: cs) = fields cs := by
  simp [fields, h]

theorem flatten_consHead (c : Nat) (fs : List (List Nat)) : (consHead c fs).flatten = c :: fs.flatten := by
  cases fs <;> rfl

theorem consHead_ne_nil {c : Nat} {fs : List (List Nat)} (h : ∀ f ∈ fs, f ≠ []) : ∀ f ∈ consHead c fs, f ≠ [] := by
  cases fs with
  | nil => exact fun f hf => List.mem_singleton.mp hf ▸ List.cons_ne_nil _ _
  | cons g gs => exact List.forall_mem_cons.mpr ⟨List.cons_ne_nil _ _, fun f hf => h f (List.mem_cons_of_mem _ hf)⟩

theorem flatten_fields (cs : List Nat) : (fields cs).flatten = cs.filter (fun c => !isSpace c) := by
  fun_induction fields cs with
  | case1 => rfl
  | case2 c cs h ih => rw [ih, List.filter_cons_of_neg (by simp [h])]
  | case3 c cs h _ ih => rw [flatten_consHead, ih, List.filter_cons_of_pos (by simpa using h)]
  | case4 c cs h _ ih => rw [List.flatten_cons, ih, List.filter_cons_of_pos (by simpa using h)]; rfl

theorem fields_ne_nil (cs : List Nat) : ∀ f ∈ fields cs, f ≠ [] := by
  fun_induction fields cs with
  | case1 => exact fun _ h => nomatch h
  | case2 _ _ _ ih => exact ih
  | case3 _ _ _ _ ih => exact consHead_ne_nil ih
  | case4 _ _ _ _ ih => exact List.forall_mem_cons.mpr ⟨List.cons_ne_nil _ _, ih⟩

theorem mem_fields {cs f : List Nat} {x : Nat} (hf : f ∈ fields cs) (hx : x ∈ f) : x ∈ cs ∧ isSpace x = false := by
  have : x ∈ (fields cs).flatten := List.mem_flatten.mpr ⟨f, hf, hx⟩
  rw [flatten_fields, List.mem_filter] at this
  exact ⟨this.1, by simpa using this.2⟩

theorem fields_eq_nil_iff (cs : List Nat) : fields cs = [] ↔ ∀ x ∈ cs, isSpace x = true := by
  have h : fields cs = [] ↔ (fields cs).flatten = [] :=
    ⟨fun h => h ▸ rfl, fun h => List.eq_nil_iff_forall_not_mem.mpr fun f hf =>
      fields_ne_nil cs f hf (List.flatten_eq_nil_iff.mp h f hf)⟩
  rw [h, flatten_fields, List.filter_eq_nil_iff]
  simp

theorem fields_ne_nil_of_starts {cs : List Nat} (h : startsNonSpace cs = true) : fields cs ≠ [] := by
  cases cs with
  | nil => cases h
  | cons d cs =>
    intro e
    rw [startsNonSpace, (fields_eq_nil_iff _).mp e d (List.mem_cons_self ..)] at h
    cases h

theorem consHead_append (c : Nat) {fs : List (List Nat)} (gs : List (List Nat)) (h : fs ≠ []) :
    consHead c (fs ++ gs) = consHead c fs ++ gs := by
  cases fs with
  | nil => exact absurd rfl h
  | cons f fs => rfl

theorem startsNonSpace_append_space (a b : List Nat) {c : Nat} (hc : isSpace c = true) :
    startsNonSpace (a ++ c :: b) = startsNonSpace a := by
  cases a with
  | nil => simp [startsNonSpace, hc]
  | cons x a => rfl

theorem fields_append (a b : List Nat) {c : Nat} (hc : isSpace c = true) :
    fields (a ++ c :: b) = fields a ++ fields b := by
  fun_induction fields a with
  | case1 => exact fields_space hc
  | case2 d a hd ih => rw [List.cons_append, fields_space hd, ih]
  | case3 d a hd hs ih =>
    rw [List.cons_append, fields, if_neg hd, startsNonSpace_append_space a b hc, if_pos hs, ih,
      consHead_append d _ (fields_ne_nil_of_starts hs)]
  | case4 d a hd hs ih =>
    rw [List.cons_append, fields, if_neg hd, startsNonSpace_append_space a b hc, if_neg hs, ih]; rfl

theorem fields_spaces_append {s a : List Nat} (hs : ∀ x ∈ s, isSpace x = true) : fields (s ++ a) = fields a := by
  induction s with
  | nil => rfl
  | cons x s ih =>
    rw [List.cons_append, fields_space (hs x (List.mem_cons_self ..))]
    exact ih (fun y hy => hs y (List.mem_cons_of_mem _ hy))

theorem fields_append_spaces {a s : List Nat} (hs : ∀ x ∈ s, isSpace x = true) : fields (a ++ s) = fields a := by
  cases s with
  | nil => rw [List.append_nil]
  | cons x s =>
    rw [fields_append a s (hs x (List.mem_cons_self ..)),
      (fields_eq_nil_iff s).mpr (fun y hy => hs y (List.mem_cons_of_mem _ hy)), List.append_nil]

theorem fields_inner {a s b : List Nat} (hs : ∀ x ∈ s, isSpace x = true) (hne : s ≠ []) :
    fields (a ++ s ++ b) = fields a ++ fields b := by
  cases s with
  | nil => exact absurd rfl hne
  | cons x s =>
    rw [List.append_assoc, List.cons_append, fields_append a _ (hs x (List.mem_cons_self ..)),
      fields_spaces_append (fun y hy => hs y (List.mem_cons_of_mem _ hy))]

theorem fields_word {w : List Nat} (hne : w ≠ []) (hw : ∀ x ∈ w, isSpace x = false) : fields w = [w] := by
  induction w with
  | nil => exact absurd rfl hne
  | cons c w ih =>
    rw [fields, if_neg (by simp [hw c (List.mem_cons_self ..)])]
    cases w with
    | nil => rfl
    | cons d w =>
      have hd : startsNonSpace (d :: w) = true := by simp [startsNonSpace, hw d (by simp)]
      rw [if_pos hd, ih (List.cons_ne_nil _ _) (fun x hx => hw x (List.mem_cons_of_mem _ hx))]
      rfl

def Words (ws : List (List Nat)) : Prop := ∀ f ∈ ws, f ≠ [] ∧ ∀ x ∈ f, isSpace x = false

theorem words_fields (cs : List Nat) : Words (fields cs) :=
  fun f hf => ⟨fields_ne_nil cs f hf, fun _ hx => (mem_fields hf hx).2⟩

theorem fields_joinSp {ws : List (List Nat)} (h : Words ws) : fields (joinSp ws) = ws := by
  fun_induction joinSp ws with
  | case1 => rfl
  | case2 f => exact fields_word (h f (List.mem_singleton_self f)).1 (h f (List.mem_singleton_self f)).2
  | case3 f fs _ ih =>
    obtain ⟨hf, hfs⟩ := List.forall_mem_cons.mp h
    rw [fields_append f _ isSpace_sp, fields_word hf.1 hf.2, ih hfs]
    rfl

theorem fields_trimSpace (cs : List Nat) : fields (trimSpace cs) = fields cs := by
  have spaces (l : List Nat) : ∀ x ∈ l.takeWhile isSpace, isSpace x = true := List.all_eq_true.mp List.all_takeWhile
  have left (l : List Nat) : fields (l.dropWhile isSpace) = fields l := by
    conv => rhs; rw [← List.takeWhile_append_dropWhile (p := isSpace) (l := l)]
    exact (fields_spaces_append (spaces l)).symm
  have right (l : List Nat) : fields (l.reverse.dropWhile isSpace).reverse = fields l := by
    conv => rhs; rw [← List.reverse_reverse l, ← List.takeWhile_append_dropWhile (p := isSpace) (l := l.reverse),
      List.reverse_append]
    exact (fields_append_spaces (fun x hx => spaces _ x (List.mem_reverse.mp hx))).symm
  rw [trimSpace, right, left]

theorem joinSp_eq_nil {ws : List (List Nat)} (h : Words ws) : joinSp ws = [] ↔ ws = [] := by
  fun_induction joinSp ws with
  | case1 => exact ⟨fun _ => rfl, fun _ => rfl⟩
  | case2 f => simpa using (h f (List.mem_singleton_self f)).1
  | case3 f fs _ _ => simp

theorem mem_joinSp {ws : List (List Nat)} {x : Nat} (hx : x ∈ joinSp ws) : x = 0x20 ∨ ∃ f ∈ ws, x ∈ f := by
  fun_induction joinSp ws with
  | case1 => cases hx
  | case2 f => exact .inr ⟨f, List.mem_singleton_self f, hx⟩
  | case3 f fs _ ih =>
    rcases List.mem_append.mp hx with h | h
    · exact .inr ⟨f, List.mem_cons_self .., h⟩
    · rcases List.mem_cons.mp h with h | h
      · exact .inl h
      · exact (ih h).imp_right fun ⟨k, hk, hxk⟩ => ⟨k, List.mem_cons_of_mem _ hk, hxk⟩

theorem head_joinSp {ws : List (List Nat)} (h : Words ws) : ∀ x, (joinSp ws).head? = some x → isSpace x = false := by
  intro x hx
  match ws, h with
  | [], _ => cases hx
  | [] :: _, h => exact absurd rfl (h [] (List.mem_cons_self ..)).1
  | (c :: f) :: ws, h =>
    have : (joinSp ((c :: f) :: ws)).head? = some c := by cases ws <;> rfl
    rw [this] at hx
    cases hx
    exact (h _ (List.mem_cons_self ..)).2 _ (List.mem_cons_self ..)

theorem noAdjSpace_cons {a : Nat} {l : List Nat} :
    noAdjSpace (a :: l) ↔ (∀ b, l.head? = some b → ¬ (isSpace a = true ∧ isSpace b = true)) ∧ noAdjSpace l := by
  cases l <;> simp [noAdjSpace]

theorem noAdjSpace_word_append {w : List Nat} (hw : ∀ x ∈ w, isSpace x = false) {r : List Nat} (hr : noAdjSpace r) :
    noAdjSpace (w ++ r) := by
  induction w with
  | nil => exact hr
  | cons c w ih =>
    refine noAdjSpace_cons.mpr ⟨fun b _ h => ?_, ih (fun x hx => hw x (List.mem_cons_of_mem _ hx))⟩
    rw [hw c (List.mem_cons_self ..)] at h
    cases h.1

theorem noAdjSpace_joinSp {ws : List (List Nat)} (h : Words ws) : noAdjSpace (joinSp ws) := by
  fun_induction joinSp ws with
  | case1 => trivial
  | case2 f => exact List.append_nil f ▸ noAdjSpace_word_append (h f (List.mem_singleton_self f)).2 (r := []) trivial
  | case3 f fs _ ih =>
    obtain ⟨hf, hfs⟩ := List.forall_mem_cons.mp h
    refine noAdjSpace_word_append hf.2 (noAdjSpace_cons.mpr ⟨fun b hb hsp => ?_, ih hfs⟩)
    rw [head_joinSp hfs b hb] at hsp
    cases hsp.2

theorem getLast?_append_cons (a : List Nat) (c : Nat) {r : List Nat} (h : r ≠ []) : (a ++ c :: r).getLast? = r.getLast? := by
  induction a with
  | nil => exact List.getLast?_cons_of_ne_nil h
  | cons x a ih => rw [List.cons_append, List.getLast?_cons_of_ne_nil (by simp), ih]

theorem getLast_joinSp {ws : List (List Nat)} (h : Words ws) : ∀ x, (joinSp ws).getLast? = some x → isSpace x = false := by
  fun_induction joinSp ws with
  | case1 => exact fun _ hx => nomatch hx
  | case2 f => exact fun x hx => (h f (List.mem_singleton_self f)).2 x (List.mem_of_getLast? hx)
  | case3 f fs hne ih =>
    have hfs : Words fs := (List.forall_mem_cons.mp h).2
    intro x hx
    rw [getLast?_append_cons f 0x20 (fun e => hne ((joinSp_eq_nil hfs).mp e))] at hx
    exact ih hfs x hx

def weight (w : Nat → Nat) (l : List Nat) : Nat := (l.map w).sum

theorem weight_cons (w : Nat → Nat) (c : Nat) (l : List Nat) : weight w (c :: l) = w c + weight w l := by
  simp [weight]

theorem joinSp_consHead (c : Nat) {fs : List (List Nat)} (h : fs ≠ []) : joinSp (consHead c fs) = c :: joinSp fs := by
  cases fs with
  | nil => exact absurd rfl h
  | cons f fs => cases fs <;> rfl

/-- The second summand is the induction invariant for text that starts with white space. -/
theorem weight_collapse (w : Nat → Nat) (hw : ∀ c, isSpace c = true → w 0x20 ≤ w c) (cs : List Nat) :
    weight w (joinSp (fields cs)) + (if startsNonSpace cs = false ∧ cs ≠ [] then w 0x20 else 0) ≤ weight w cs := by
  fun_induction fields cs with
  | case1 => simp [joinSp, weight]
  | case2 c cs hc ih =>
    have := hw c hc
    rw [weight_cons, if_pos ⟨by simp [startsNonSpace, hc], List.cons_ne_nil _ _⟩]
    omega
  | case3 c cs hc hs ih =>
    rw [joinSp_consHead c (fields_ne_nil_of_starts hs), weight_cons, weight_cons, if_neg (by simp [startsNonSpace, hc])]
    omega
  | case4 c cs hc hs ih =>
    rw [weight_cons, if_neg (by simp [startsNonSpace, hc])]
    cases hf : fields cs with
    | nil => simp [joinSp, weight]
    | cons g gs =>
      -- a field left in `cs`, which does not start with one: `cs` starts with white space, the `0x20` is paid for
      have hne : cs ≠ [] := fun e => by rw [e] at hf; cases hf
      rw [hf, if_pos ⟨by simpa using hs, hne⟩] at ih
      rw [show joinSp ([c] :: g :: gs) = c :: 0x20 :: joinSp (g :: gs) from rfl, weight_cons, weight_cons]
      omega

theorem weight_sublist (w : Nat → Nat) {a b : List Nat} (h : a.Sublist b) : weight w a ≤ weight w b := by
  induction h with
  | slnil => exact Nat.le_refl _
  | cons c _ ih => rw [weight_cons]; omega
  | cons_cons c _ ih => rw [weight_cons, weight_cons]; omega

theorem weight_dropWhile_le (w : Nat → Nat) (p : Nat → Bool) (l : List Nat) : weight w (l.dropWhile p) ≤ weight w l :=
  weight_sublist w (List.dropWhile_sublist p)

theorem weight_filter_le (w : Nat → Nat) (p : Nat → Bool) (l : List Nat) : weight w (l.filter p) ≤ weight w l :=
  weight_sublist w List.filter_sublist

end Wtf.Validate
