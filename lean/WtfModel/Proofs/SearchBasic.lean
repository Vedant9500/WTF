import WtfModel.Model.Search
import WtfModel.Proofs.ScoreLaws
import WtfModel.Proofs.ListBasics
/-
  What every proof about the search pipeline rests on: the stable sort, the score map (`addScore`) and the two loops
  that fill it as one fold over the postings that take part (`hits`), its invariant, one characterisation of each
  post-scoring stage (every stage re-scores each entry by a per-document function and sorts again), the loops over the
  database in order as one `filterMap` (`dbScan`), and the notion of a ranked answer with its closure lemmas.  Core Lean only.
-/
namespace Wtf.Search
open Text Index Filters ScoreOps ScoreLaws

variable {S : Type} [ScoreOps S]
variable (T : Tuning S) (db : Db) (o : Opts S)

section sort
variable {α : Type} (key : α → S)

theorem sortDesc_perm (l : List α) : (sortDesc key l).Perm l := List.mergeSort_perm _ _

@[simp] theorem length_sortDesc (l : List α) : (sortDesc key l).length = l.length := List.length_mergeSort _

theorem sortDesc_map_perm {β : Type} (f : α → β) (l : List α) : ((sortDesc key l).map f).Perm (l.map f) :=
  (sortDesc_perm key l).map f

section
variable [ScoreLaws S]

theorem notLt_trans (a b c : α) (h1 : (!lt (key a) (key b)) = true) (h2 : (!lt (key b) (key c)) = true) :
    (!lt (key a) (key c)) = true := by
  rw [Bool.not_eq_true'] at h1 h2 ⊢
  exact ScoreLaws.le_trans _ _ _ h1 h2

theorem notLt_total (a b : α) : (!lt (key a) (key b) || !lt (key b) (key a)) = true := by
  cases h : lt (key a) (key b) with
  | false => rfl
  | true => rw [ScoreLaws.lt_asymm _ _ h]; rfl

theorem sortDesc_sorted (l : List α) : (sortDesc key l).Pairwise (fun a b => lt (key a) (key b) = false) :=
  (List.pairwise_mergeSort (notLt_trans key) (notLt_total key) l).imp (by simp)

variable {key}

/-- `sort.SliceStable`: an entry stays in front of a later one that does not score strictly higher -/
theorem pair_sublist_sortDesc {a b : α} {l : List α} (hab : lt (key a) (key b) = false) (h : [a, b].Sublist l) :
    [a, b].Sublist (sortDesc key l) :=
  List.pair_sublist_mergeSort (notLt_trans key) (notLt_total key) (by rw [hab]; rfl) h

end

variable {key}

@[simp] theorem mem_sortDesc {a : α} {l : List α} : a ∈ sortDesc key l ↔ a ∈ l := List.mem_mergeSort

theorem mem_of_mem_take_sortDesc {a : α} {l : List α} {n : Nat} (h : a ∈ (sortDesc key l).take n) : a ∈ l :=
  mem_sortDesc.mp (List.mem_of_mem_take h)

theorem sortDesc_of_sorted {l : List α} (h : l.Pairwise (fun a b => lt (key a) (key b) = false)) : sortDesc key l = l :=
  List.mergeSort_of_pairwise (h.imp fun hab => by rw [hab]; rfl)

end sort

def KeysSorted (m : List (Nat × S)) : Prop := (m.map (·.1)).Pairwise (· < ·)

omit [ScoreOps S] in
theorem keysSorted_nodup {m : List (Nat × S)} (h : KeysSorted m) : (m.map (·.1)).Nodup :=
  h.imp (fun hab => Nat.ne_of_lt hab)

theorem mem_keys_addScore (m : List (Nat × S)) (d : Nat) (x : S) (k : Nat) :
    k ∈ (addScore m d x).map (·.1) ↔ k = d ∨ k ∈ m.map (·.1) := by
  induction m with
  | nil => simp [addScore]
  | cons a rest ih =>
    unfold addScore
    split
    · rename_i h; simp [beq_iff_eq.mp h]
    · split
      · simp
      · simp only [List.map_cons, List.mem_cons, ih, or_left_comm]

theorem keysSorted_addScore {m : List (Nat × S)} (h : KeysSorted m) (d : Nat) (x : S) :
    KeysSorted (addScore m d x) := by
  induction m with
  | nil => simp [addScore, KeysSorted]
  | cons a rest ih =>
    obtain ⟨d', s⟩ := a
    have h' := List.pairwise_cons.mp h
    unfold addScore
    split
    · exact h
    · rename_i hne
      split
      · -- `d` goes in front: it is below `d'`, hence below every key
        rename_i hlt
        refine List.pairwise_cons.mpr ⟨fun k hk => ?_, h⟩
        rcases List.mem_cons.mp hk with rfl | hk
        · exact hlt
        · exact Nat.lt_trans hlt (h'.1 k hk)
      · rename_i hnlt
        refine List.pairwise_cons.mpr ⟨fun k hk => ?_, ih h'.2⟩
        rcases (mem_keys_addScore _ _ _ _).mp hk with rfl | hk
        · exact Nat.lt_of_le_of_ne (Nat.le_of_not_lt hnlt) (by simpa using hne)
        · exact h'.1 k hk

omit [ScoreOps S] in
theorem lookup_cons_if (k d : Nat) (s : S) (m : List (Nat × S)) :
    List.lookup k ((d, s) :: m) = if k = d then some s else List.lookup k m := by
  by_cases h : k = d
  · subst h; simp
  · have : (k == d) = false := by simpa using h
    simp [List.lookup_cons, this, h]

omit [ScoreOps S] in
theorem lookup_none_of_lt {m : List (Nat × S)} {d : Nat} (h : ∀ k ∈ m.map (·.1), d < k) : List.lookup d m = none :=
  List.lookup_eq_none_iff.mpr fun p hp => bne_iff_ne.mpr (Nat.ne_of_lt (h p.1 (List.mem_map_of_mem hp)))

theorem lookup_addScore {m : List (Nat × S)} (hs : KeysSorted m) (d : Nat) (x : S) (k : Nat) :
    List.lookup k (addScore m d x) =
      if k = d then some (add ((List.lookup d m).getD zero) x) else List.lookup k m := by
  induction m with
  | nil => rw [addScore, lookup_cons_if]; rfl
  | cons a rest ih =>
    obtain ⟨d', s⟩ := a
    have hs' := List.pairwise_cons.mp hs
    rw [addScore]
    split
    · -- the entry of `d` is at the head
      obtain rfl : d' = d := beq_iff_eq.mp ‹_›
      rw [lookup_cons_if, lookup_cons_if, lookup_cons_if, if_pos rfl]
      split <;> rfl
    · have hd : ¬ d = d' := fun e => ‹¬ (d' == d) = true› (beq_iff_eq.mpr e.symm)
      split
      · -- `d` is below every key: it has no entry yet
        rw [lookup_cons_if, lookup_none_of_lt (d := d) (m := (d', s) :: rest)]
        · rfl
        · intro k' hk'
          rcases List.mem_cons.mp hk' with rfl | hk'
          · assumption
          · exact Nat.lt_trans ‹d < d'› (hs'.1 k' hk')
      · rw [lookup_cons_if, ih hs'.2, lookup_cons_if, lookup_cons_if, if_neg hd]
        split
        · rw [if_neg (by omega)]
        · rfl

omit [ScoreOps S] in
theorem lookup_isSome_iff_mem (m : List (Nat × S)) (k : Nat) : (List.lookup k m).isSome ↔ k ∈ m.map (·.1) := by
  rw [List.lookup_isSome_iff, List.mem_map]
  exact ⟨fun ⟨p, hp, e⟩ => ⟨p, hp, (beq_iff_eq.mp e).symm⟩, fun ⟨p, hp, e⟩ => ⟨p, hp, beq_iff_eq.mpr e.symm⟩⟩

omit [ScoreOps S] in
theorem lookup_of_mem {m : List (Nat × S)} (hs : KeysSorted m) {d : Nat} {s : S} (h : (d, s) ∈ m) :
    List.lookup d m = some s := by
  induction m with
  | nil => simp at h
  | cons a rest ih =>
    obtain ⟨d', s'⟩ := a
    simp only [KeysSorted, List.map_cons, List.pairwise_cons] at hs
    simp only [List.mem_cons, Prod.mk.injEq] at h
    rw [lookup_cons_if]
    cases h with
    | inl h => obtain ⟨rfl, rfl⟩ := h; simp
    | inr h =>
      have : d' < d := hs.1 d (List.mem_map_of_mem (f := (·.1)) h)
      have hne : ¬ d = d' := by omega
      simp only [hne, ↓reduceIte]
      exact ih hs.2 h

omit [ScoreOps S] in
theorem keysSorted_ext {m1 m2 : List (Nat × S)} (h1 : KeysSorted m1) (h2 : KeysSorted m2)
    (h : ∀ k, List.lookup k m1 = List.lookup k m2) : m1 = m2 := by
  -- an entry of one list is found by the other's lookup, hence lies in it
  have sub : ∀ {a b : List (Nat × S)}, KeysSorted a → (∀ k, List.lookup k a = List.lookup k b) → ∀ x ∈ a, x ∈ b := by
    intro a b ha hab x hx
    obtain ⟨l₁, l₂, e, _⟩ := List.lookup_eq_some_iff.mp ((hab x.1).symm.trans (lookup_of_mem ha hx))
    rw [e]; simp
  have hp : m1.Perm m2 :=
    (List.perm_ext_iff_of_nodup (nodup_of_nodup_map _ (keysSorted_nodup h1)) (nodup_of_nodup_map _ (keysSorted_nodup h2))).mpr
      fun x => ⟨sub h1 h x, sub h2 (fun k => (h k).symm) x⟩
  exact hp.eq_of_pairwise (le := fun a b => a.1 < b.1) (fun a b _ _ hab hba => absurd hab (Nat.lt_asymm hba))
    (List.pairwise_map.mp h1) (List.pairwise_map.mp h2)

/-! ### the two accumulation loops as one fold

  calculateInitialScores / processPostingsForTerm add, posting by posting, one summand to the entry of the posting's
  document.  Flattened, the score map is `addScore` folded over the list of the postings that take part (`hits`): a fact
  about the score map is a fact about `addScore` along that list (`List.foldlRecOn`, `List.foldl_rel`, `foldl_or_exists`). -/

def Eligible (T : Tuning S) (db : Db) (o : Opts S) (d : Nat) : Prop :=
  ∃ c, db[d]? = some c ∧ passes T.ri T.host o.filter c = true

omit [ScoreOps S] in
theorem eligible_lt {T : Tuning S} {db : Db} {o : Opts S} {d : Nat} (h : Eligible T db o d) : d < db.length := by
  obtain ⟨c, hc, _⟩ := h
  exact (List.getElem?_eq_some_iff.mp hc).1

omit [ScoreOps S] in
theorem eligible_iff_any {T : Tuning S} {db : Db} {o : Opts S} {d : Nat} :
    Eligible T db o d ↔ db[d]?.any (passes T.ri T.host o.filter) = true := by
  simp [Eligible, Option.any_eq_true]

def contrib (T : Tuning S) (idx : Index) (tb : List (Bytes × S)) (t : Token) (p : Posting) : S :=
  mul (mul (T.idf idx.n ((look idx.df t).getD 0)) (boostOf tb t))
    (termBM25F T.params idx.n (sumLens idx.lens) (idx.lens.getD p.doc {}) p.tf)

def hits (T : Tuning S) (db : Db) (idx : Index) (o : Opts S) (terms : List Token) : List (Token × Posting) :=
  terms.flatMap fun t =>
    if lt (T.idf idx.n ((look idx.df t).getD 0)) T.params.minIDF then []
    else (((look idx.postings t).getD []).filter fun p => db[p.doc]?.any (passes T.ri T.host o.filter)).map (t, ·)

theorem initialScores_eq_hits (idx : Index) (pq : Option (NlpOut S)) (terms : List Token) :
    initialScores T db idx o pq terms =
      (hits T db idx o terms).foldl (fun m h => addScore m h.2.doc (contrib T idx (termBoosts o pq) h.1 h.2)) [] := by
  rw [hits, List.foldl_flatMap, initialScores]
  refine congrArg (List.foldl · [] terms) (funext fun m => funext fun t => ?_)
  cases look idx.postings t with
  | none => simp
  | some ps =>
    dsimp only [Option.getD_some]
    split
    · rfl
    · rw [List.foldl_map, List.foldl_filter, processPostings]
      refine congrArg (List.foldl · m ps) (funext fun m => funext fun p => ?_)
      cases db[p.doc]? <;> rfl

theorem mem_hits {T : Tuning S} {db : Db} {idx : Index} {o : Opts S} {terms : List Token} {t : Token} {p : Posting} :
    (t, p) ∈ hits T db idx o terms ↔
      t ∈ terms ∧ lt (T.idf idx.n ((look idx.df t).getD 0)) T.params.minIDF = false ∧
        (∃ ps, look idx.postings t = some ps ∧ p ∈ ps) ∧ Eligible T db o p.doc := by
  have hps : p ∈ (look idx.postings t).getD [] ↔ ∃ ps, look idx.postings t = some ps ∧ p ∈ ps := by
    cases look idx.postings t <;> simp
  simp only [hits, List.mem_flatMap, eligible_iff_any, ← hps]
  constructor
  · rintro ⟨t', ht, h⟩
    split at h
    · cases h
    · obtain ⟨p', hp, e⟩ := List.mem_map.mp h
      cases e
      exact ⟨ht, Bool.eq_false_iff.mpr ‹_›, List.mem_filter.mp hp⟩
  · rintro ⟨ht, hidf, hp⟩
    exact ⟨t, ht, by rw [hidf]; exact List.mem_map_of_mem (List.mem_filter.mpr hp)⟩

def ScoresInv (T : Tuning S) (db : Db) (o : Opts S) (m : List (Nat × S)) : Prop :=
  KeysSorted m ∧ ∀ k ∈ m.map (·.1), Eligible T db o k

theorem scoresInv_nil (T : Tuning S) (db : Db) (o : Opts S) : ScoresInv T db o [] := by
  simp [ScoresInv, KeysSorted]

variable {T db o}

theorem scoresInv_addScore {m : List (Nat × S)} (h : ScoresInv T db o m) {d : Nat} (hd : Eligible T db o d) (x : S) :
    ScoresInv T db o (addScore m d x) :=
  ⟨keysSorted_addScore h.1 d x, fun k hk => ((mem_keys_addScore _ _ _ _).mp hk).elim (· ▸ hd) (h.2 k)⟩

omit [ScoreOps S] in
theorem scores_length_le {m : List (Nat × S)} (h : ScoresInv T db o m) :
    m.length ≤ db.length := by
  have := (keysSorted_nodup h.1).length_le_of_subset (l₂ := List.range db.length)
    fun x hx => List.mem_range.mpr (eligible_lt (h.2 x hx))
  rwa [List.length_map, List.length_range] at this

variable (T db o)

theorem initialScores_inv (idx : Index) (o : Opts S) (pq : Option (NlpOut S))
    (terms : List Token) : ScoresInv T db o (initialScores T db idx o pq terms) := by
  rw [initialScores_eq_hits]
  exact List.foldlRecOn _ _ (scoresInv_nil T db o) fun m hm h hh => scoresInv_addScore hm (mem_hits.mp hh).2.2.2 _

/-- collectResults' effect on one score -/
def collectScore (T : Tuning S) (o : Opts S) (pq : Option (NlpOut S)) (d : Nat) (c : Cmd) (s : S) : S :=
  let s1 := match pq with
    | none => s
    | some n =>
      let s' := mul s (n.intentBoost d)
      let docText := c.commandLower ++ (0x20 :: c.descriptionLower)
      if containsAnyLocal docText n.actions && containsAnyLocal docText n.targets then mul s' (ofQ coocFactor) else s'
  if isPipeline T.ri c && lt zero o.pipelineBoost then mul s1 o.pipelineBoost else s1

theorem collect_eq (pq : Option (NlpOut S)) (m : List (Nat × S)) :
    collect T db o pq m = m.filterMap fun x => db[x.1]?.map fun c => (x.1, collectScore T o pq x.1 c x.2) := by
  unfold collect
  refine congrArg (List.filterMap · m) (funext fun ⟨d, s⟩ => ?_)
  dsimp only
  cases db[d]? <;> rfl

theorem mem_collect {T : Tuning S} {db : Db} {o : Opts S} {pq : Option (NlpOut S)} {m : List (Nat × S)} {d : Nat} {s : S} :
    (d, s) ∈ collect T db o pq m ↔ ∃ s0 c, (d, s0) ∈ m ∧ db[d]? = some c ∧ s = collectScore T o pq d c s0 := by
  rw [collect_eq, List.mem_filterMap]
  constructor
  · rintro ⟨⟨d', s0⟩, hm, hf⟩
    obtain ⟨c, hc, ⟨⟩⟩ := Option.map_eq_some_iff.mp hf
    exact ⟨s0, c, hm, hc, rfl⟩
  · rintro ⟨s0, c, hm, hc, rfl⟩
    exact ⟨(d, s0), hm, by rw [hc]; rfl⟩

theorem collect_ids_filter (pq : Option (NlpOut S)) (m : List (Nat × S)) :
    (collect T db o pq m).map (·.1) = (m.map (·.1)).filter (fun d => db[d]?.isSome) := by
  rw [collect_eq]
  induction m with
  | nil => rfl
  | cons a rest ih => cases hc : db[a.1]? <;> simp [hc, ih]

variable {T db o}

theorem collect_ids (pq : Option (NlpOut S)) {m : List (Nat × S)} (h : ScoresInv T db o m) :
    (collect T db o pq m).map (·.1) = m.map (·.1) := by
  rw [collect_ids_filter, List.filter_eq_self]
  intro k hk
  obtain ⟨c, hc, _⟩ := h.2 k hk
  simp [hc]

theorem length_collect (pq : Option (NlpOut S)) {m : List (Nat × S)}
    (h : ScoresInv T db o m) : (collect T db o pq m).length = m.length := by
  simpa using congrArg List.length (collect_ids pq h)

variable (T db o)

def rescore (f : Nat → S → S) (r : List (Nat × S)) : List (Nat × S) := r.map (fun x => (x.1, f x.1 x.2))

omit [ScoreOps S] in
@[simp] theorem ids_rescore (f : Nat → S → S) (r : List (Nat × S)) : (rescore f r).map (·.1) = r.map (·.1) := by
  simp [rescore, List.map_map, Function.comp_def]

omit [ScoreOps S] in
@[simp] theorem length_rescore (f : Nat → S → S) (r : List (Nat × S)) : (rescore f r).length = r.length := by
  simp [rescore]

omit [ScoreOps S] in
theorem mem_rescore {f : Nat → S → S} {r : List (Nat × S)} {y : Nat × S} :
    y ∈ rescore f r ↔ ∃ x ∈ r, y = (x.1, f x.1 x.2) := by
  simp [rescore, eq_comm]

/-- the cascading boost: unconditionally a re-scoring followed by the stable sort (`sortDesc [] = []`) -/
theorem cascadeStage_eq (n : NlpOut S) (r : List (Nat × S)) :
    cascadeStage n r = sortDesc (·.2) (rescore (fun d s => mul s (n.cascade d)) r) := by
  unfold cascadeStage
  cases r with
  | nil => simp [rescore, sortDesc]
  | cons a t => rfl

theorem length_cascadeStage (n : NlpOut S) (r : List (Nat × S)) : (cascadeStage n r).length = r.length := by
  rw [cascadeStage_eq, length_sortDesc, length_rescore]

theorem cascade_ids_perm (n : NlpOut S) (r : List (Nat × S)) :
    ((cascadeStage n r).map (·.1)).Perm (r.map (·.1)) := by
  rw [cascadeStage_eq]
  exact (sortDesc_map_perm _ _ _).trans (List.Perm.of_eq (ids_rescore _ _))

def blend (sims : List (Nat × S)) (d : Nat) (s : S) : S :=
  match sims.find? (·.1 == d) with
  | some (_, sim) => add s (mul (mul sim (ofQ rerankAlpha)) (ofQ rerankScale))
  | none => s

def rerankWindow (limit : Nat) (r : List (Nat × S)) : List (Nat × S) := r.take (max (limit * rerankMult) rerankMin)

def winLen (limit n : Nat) : Nat := min (max (limit * rerankMult) rerankMin) n

/-- the window is at least `limit` wide: under a final cut at `limit` the re-rank loses nothing -/
theorem le_rerankWidth (limit : Nat) : limit ≤ max (limit * rerankMult) rerankMin :=
  Nat.le_trans (Nat.le_mul_of_pos_right _ (by decide)) (Nat.le_max_left _ _)

/-- `rerankWithNLP` returns its window `topK`: what lies beyond it is dropped -/
theorem rerank_eq (nq : Bytes) (limit : Nat) (r : List (Nat × S)) :
    rerank T nq limit r = match T.tfidf with
      | none => r
      | some rank =>
        sortDesc (·.2) (rescore (blend ((rank nq).take (rerankWindow limit r).length)) (rerankWindow limit r)) := by
  unfold rerank
  generalize T.tfidf = t
  cases t with
  | none => rfl
  | some rank =>
    simp only [rescore, blend, rerankWindow]
    congr 1
    apply List.map_congr_left
    intro x _
    cases hfind : List.find? (fun y => y.1 == x.1) ((rank nq).take (r.take (max (limit * rerankMult) rerankMin)).length) with
    | none => rfl
    | some y => rfl

theorem length_rerank (nq : Bytes) (limit : Nat) (r : List (Nat × S)) :
    (rerank T nq limit r).length =
      if T.tfidf.isSome then winLen limit r.length else r.length := by
  rw [rerank_eq]
  cases T.tfidf <;> simp [rerankWindow, winLen]

theorem rerank_ids_perm_of_le (nq : Bytes) (limit : Nat) (r : List (Nat × S))
    (h : r.length ≤ limit) : ((rerank T nq limit r).map (·.1)).Perm (r.map (·.1)) := by
  rw [rerank_eq, rerankWindow, List.take_of_length_le (Nat.le_trans h (le_rerankWidth limit))]
  cases T.tfidf with
  | none => exact List.Perm.refl _
  | some rank => exact (sortDesc_map_perm _ _ _).trans (List.Perm.of_eq (ids_rescore _ _))

theorem mem_cascadeStage {n : NlpOut S} {r : List (Nat × S)} {y : Nat × S} :
    y ∈ cascadeStage n r ↔ ∃ x ∈ r, y = (x.1, mul x.2 (n.cascade x.1)) := by
  rw [cascadeStage_eq, mem_sortDesc]
  exact mem_rescore

/-! ### loops over the database in order

  Every `for i := range db.Commands` loop of the model appends at most one result per command, at its
  position: one `filterMap` over `db.zipIdx`.  What such a loop returns is proved for that shape (`mem_dbScan`,
  `dbScan_ids_lt`, `cand_dbScan`); a loop of the model is brought to it by `dbScan_cons`. -/

def dbScan (f : Nat → Cmd → Option S) (i : Nat) (db : Db) : List (Nat × S) :=
  (db.zipIdx i).filterMap (fun p => (f p.2 p.1).map (fun s => (p.2, s)))

omit [ScoreOps S] in
theorem dbScan_cons (f : Nat → Cmd → Option S) (i : Nat) (c : Cmd) (db : Db) :
    dbScan f i (c :: db) = match f i c with
      | some s => (i, s) :: dbScan f (i + 1) db
      | none => dbScan f (i + 1) db := by
  simp only [dbScan, List.zipIdx_cons, List.filterMap_cons]
  cases f i c <;> rfl

omit [ScoreOps S] in
theorem mem_dbScan {f : Nat → Cmd → Option S} {db : Db} {x : Nat × S} (h : x ∈ dbScan f 0 db) :
    ∃ c, db[x.1]? = some c ∧ f x.1 c = some x.2 := by
  obtain ⟨⟨c, k⟩, hm, hf⟩ := List.mem_filterMap.mp h
  obtain ⟨s, hs, rfl⟩ := Option.map_eq_some_iff.mp hf
  exact ⟨c, List.mk_mem_zipIdx_iff_getElem?.mp hm, hs⟩

omit [ScoreOps S] in
theorem dbScan_ids_lt (f : Nat → Cmd → Option S) (db : Db) : ((dbScan f 0 db).map (·.1)).Pairwise (· < ·) := by
  -- the positions are a sub-list of `0, 1, …`
  have hs : ((dbScan f 0 db).map (·.1)).Sublist (List.range' 0 db.length) := by
    rw [← List.zipIdx_map_snd, dbScan, List.map_filterMap]
    induction db.zipIdx 0 with
    | nil => exact .slnil
    | cons p t ih =>
      simp only [List.filterMap_cons, List.map_cons]
      cases f p.2 p.1 with
      | none => exact ih.cons _
      | some s => exact ih.cons_cons _
  exact List.Pairwise.sublist hs List.pairwise_lt_range'

structure Cand (n : Nat) (r : List (Nat × S)) : Prop where
  nodup : (r.map (·.1)).Nodup
  real : ∀ x ∈ r, x.1 < n
  nonneg : ∀ x ∈ r, Nonneg x.2

structure Ranked (n : Nat) (r : List (Nat × S)) : Prop extends Cand n r where
  sorted : r.Pairwise (fun a b => lt a.2 b.2 = false)

/-- The five clauses of C01 for an answer `r` over a database of `n` entries with limit `lim`
    (ids are positions in the database; "finite" has no content in an ordered field). -/
structure Post (n lim : Nat) (r : List (Nat × S)) : Prop where
  bounded : r.length ≤ lim
  real : ∀ x ∈ r, x.1 < n
  nodup : (r.map (·.1)).Nodup
  sorted : r.Pairwise (fun a b => lt a.2 b.2 = false)
  nonneg : ∀ x ∈ r, lt x.2 (zero : S) = false

theorem Cand.sublist {n : Nat} {r r' : List (Nat × S)} (h : Cand n r) (hs : r'.Sublist r) : Cand n r' :=
  ⟨(hs.map _).nodup h.nodup, fun x hx => h.real x (hs.subset hx), fun x hx => h.nonneg x (hs.subset hx)⟩

theorem Cand.perm {n : Nat} {r r' : List (Nat × S)} (h : Cand n r) (hp : r'.Perm r) : Cand n r' :=
  ⟨(hp.map _).nodup_iff.mpr h.nodup, fun x hx => h.real x (hp.mem_iff.mp hx), fun x hx => h.nonneg x (hp.mem_iff.mp hx)⟩

theorem cand_dbScan {f : Nat → Cmd → Option S} (hf : ∀ i c s, f i c = some s → Nonneg s) (db : Db) :
    Cand db.length (dbScan f 0 db) :=
  ⟨(dbScan_ids_lt f db).imp Nat.ne_of_lt,
   fun _ hx => let ⟨_, hc, _⟩ := mem_dbScan hx; (List.getElem?_eq_some_iff.mp hc).1,
   fun _ hx => let ⟨c, _, hs⟩ := mem_dbScan hx; hf _ c _ hs⟩

theorem Cand.rescore {n : Nat} {r : List (Nat × S)} (h : Cand n r) {f : Nat → S → S}
    (hf : ∀ x ∈ r, Nonneg (f x.1 x.2)) : Cand n (rescore f r) := by
  refine ⟨by rw [ids_rescore]; exact h.nodup, fun y hy => ?_, fun y hy => ?_⟩
  · obtain ⟨x, hx, rfl⟩ := mem_rescore.mp hy
    exact h.real x hx
  · obtain ⟨x, hx, rfl⟩ := mem_rescore.mp hy
    exact hf x hx

theorem Cand.sortDesc [ScoreLaws S] {n : Nat} {r : List (Nat × S)} (h : Cand n r) : Ranked n (sortDesc (·.2) r) :=
  ⟨h.perm (sortDesc_perm _ r), sortDesc_sorted _ r⟩

theorem Ranked.sublist {n : Nat} {r r' : List (Nat × S)} (h : Ranked n r) (hs : r'.Sublist r) : Ranked n r' :=
  ⟨h.toCand.sublist hs, h.sorted.sublist hs⟩

/-- Write the binder types of `g` and `f` at the call: left to unification against a model function, the element
    type costs a hundred times more. -/
theorem ranked_map {β : Type} {n : Nat} (g : β → Nat) (f : β → S) {l : List β} (hnd : (l.map g).Nodup)
    (hreal : ∀ x ∈ l, g x < n) (hnn : ∀ x ∈ l, Nonneg (f x)) (hs : l.Pairwise (fun a b => lt (f a) (f b) = false)) :
    Ranked n (l.map (fun x => (g x, f x))) := by
  refine ⟨⟨by rwa [List.map_map], fun y hy => ?_, fun y hy => ?_⟩, List.pairwise_map.mpr hs⟩
  · obtain ⟨x, hx, rfl⟩ := List.mem_map.mp hy
    exact hreal x hx
  · obtain ⟨x, hx, rfl⟩ := List.mem_map.mp hy
    exact hnn x hx

theorem Ranked.post_take {n : Nat} {r : List (Nat × S)} (h : Ranked n r) (lim : Nat) : Post n lim (r.take lim) :=
  let h' := h.sublist (List.take_sublist lim r)
  ⟨List.length_take_le _ _, h'.real, h'.nodup, h'.sorted, h'.nonneg⟩

theorem Post.ranked {n lim : Nat} {r : List (Nat × S)} (h : Post n lim r) : Ranked n r :=
  ⟨⟨h.nodup, h.real, h.nonneg⟩, h.sorted⟩

theorem post_nil (n lim : Nat) : Post n lim ([] : List (Nat × S)) :=
  ⟨by simp, by simp, by simp, by simp, by simp⟩

/-- the five clauses as the property theorems spell them -/
theorem Post.clauses {n lim : Nat} {r : List (Nat × S)} (p : Post n lim r) :
    r.length ≤ lim ∧ (∀ x ∈ r, x.1 < n) ∧ (r.map (·.1)).Nodup ∧
    r.Pairwise (fun a b => lt a.2 b.2 = false) ∧ (∀ x ∈ r, Nonneg x.2) :=
  ⟨p.bounded, p.real, p.nodup, p.sorted, p.nonneg⟩

end Wtf.Search
