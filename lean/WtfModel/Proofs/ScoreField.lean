import WtfModel.Proofs.ScoreLaws
import Mathlib.Algebra.Order.Field.Basic
import Mathlib.Algebra.Order.Field.Rat

/-
  Every linearly ordered field is a model of `ScoreLaws` (so the ranking theorems hold over ℚ, ℝ, …).
  The ranking theorems themselves are core Lean; Mathlib serves to exhibit this instance (and the real idf, Proofs/C01Idf.lean).
-/
namespace Wtf

section
variable (K : Type) [Field K] [LinearOrder K] [IsStrictOrderedRing K]

@[reducible] def fieldScoreOps : ScoreOps K where
  zero := 0
  one := 1
  add := (· + ·)
  sub := (· - ·)
  mul := (· * ·)
  div := (· / ·)
  lt a b := decide (a < b)
  ofNat n := (n : K)
  ofQ q := (q.num : K) / (q.den : K)

theorem fieldScoreLaws : @ScoreLaws K (fieldScoreOps K) := by
  let _ := fieldScoreOps K
  constructor
  all_goals simp only [ScoreOps.lt, ScoreOps.zero, ScoreOps.one, ScoreOps.add, ScoreOps.sub, ScoreOps.mul,
    ScoreOps.div, ScoreOps.ofNat, ScoreOps.ofQ, decide_eq_true_eq, decide_eq_false_iff_not, not_lt]
  · intro a; exact le_refl a
  · intro a b c; exact lt_trans
  · intro a b c h1 h2; exact le_trans h2 h1
  · intro a b h; exact le_of_lt h
  · exact zero_lt_one
  · intro a b ha hb; exact add_nonneg ha hb
  · intro a b ha hb; exact add_pos_of_nonneg_of_pos ha hb
  · intro a b ha hb; exact add_pos_of_pos_of_nonneg ha hb
  · intro a; exact zero_add a
  · intro a b ha hb; exact mul_nonneg ha hb
  · intro a b ha hb; exact mul_pos ha hb
  · intro a b ha hb; exact div_nonneg ha (le_of_lt hb)
  · intro a b ha hb; exact div_pos ha hb
  · intro a b h; exact sub_nonneg.mpr h
  · intro n; exact Nat.cast_nonneg n
  · intro n hn; exact Nat.cast_pos.mpr hn
  · intro m n h; exact Nat.cast_le.mpr h
  · intro q hn hd
    exact div_nonneg (Int.cast_nonneg hn) (Nat.cast_nonneg _)
  · intro q hn hd
    exact div_pos (Int.cast_pos.mpr hn) (Nat.cast_pos.mpr hd)
  · intro q h hd
    have hd' : (0 : K) < (q.den : K) := Nat.cast_pos.mpr hd
    rw [div_le_one hd', ← Int.cast_natCast]
    exact Int.cast_le.mpr h
  · intro a b c h hc; exact mul_le_mul_of_nonneg_right h hc
  · intro a b c h hc; exact mul_le_mul_of_nonneg_left h hc
  · intro a b c h; exact add_le_add_left h c
  · intro a b c h; exact add_le_add_right h c
  · intro a; exact mul_one a
  · intro a; exact one_mul a
  · intro a b c h hc; exact div_le_div_of_nonneg_right h (le_of_lt hc)
  · intro a h; exact sub_neg.mpr h
  · intro q h hd
    have hd' : (0 : K) < (q.den : K) := Nat.cast_pos.mpr hd
    rw [le_div_iff₀ hd', one_mul, ← Int.cast_natCast]
    exact Int.cast_le.mpr h
  · intro a b c h; exact sub_le_sub_left h c
  · intro a b h; exact le_add_of_nonneg_right h

end

example : @ScoreLaws ℚ (fieldScoreOps ℚ) := fieldScoreLaws ℚ

end Wtf
