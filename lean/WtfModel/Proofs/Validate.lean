import WtfModel.Proofs.ValidateUtf8
import WtfModel.Proofs.ValidateText

/-!
  Lemmas about `validate` itself: when it accepts, what the accepted text looks like, what a second
  validation does with it, how padding acts.  The property theorems in `Props/C14.lean` are assembled
  from these.
-/
namespace Wtf.Validate

/-- the text returned for an accepted query, as code points -/
def outOf (rs : List Rune) : List Nat := joinSp (fields (stripCtl rs))

theorem kept_repl : kept Wtf.Gen.Validate.invalidRepl = true := by decide

/-- a test that cannot tell the replacement byte from U+FFFD cannot tell what is written from what was read -/
theorem out_congr (p : Nat → Bool) (h : p Wtf.Gen.Validate.invalidRepl = p 0xFFFD) (r : Rune) : p r.out = p r.val := by
  cases r with
  | cp c => rfl
  | bad b => exact h

theorem isSpace_out : ∀ r : Rune, isSpace r.out = isSpace r.val := out_congr isSpace (by decide)
theorem isControl_out : ∀ r : Rune, isControl r.out = isControl r.val := out_congr isControl (by decide)
theorem isMeta_out : ∀ r : Rune, isMeta r.out = isMeta r.val := out_congr isMeta (by decide)
theorem kept_out : ∀ r : Rune, kept r.out = kept r.val := out_congr kept (by decide)

theorem out_of_not_bad {r : Rune} (h : r.isBad = false) : r.out = r.val := by
  cases r with
  | cp c => rfl
  | bad b => cases h

theorem stripStep_eq (r : Rune) : stripStep r = if kept r.out then some r.out else none := by
  cases r with
  | cp c => rfl
  | bad b => exact (if_pos kept_repl).symm

theorem stripCtl_eq (rs : List Rune) : stripCtl rs = (rs.map Rune.out).filter kept := by
  rw [← List.filterMap_eq_filter, List.filterMap_map, stripCtl, funext stripStep_eq]; rfl

theorem mem_stripCtl {rs : List Rune} {x : Nat} : x ∈ stripCtl rs ↔ kept x = true ∧ ∃ r ∈ rs, r.out = x := by
  simp [stripCtl_eq, and_comm]

theorem stripCtl_append (a b : List Rune) : stripCtl (a ++ b) = stripCtl a ++ stripCtl b := by
  simp [stripCtl]

theorem outOf_ne_nil_iff (rs : List Rune) : outOf rs ≠ [] ↔ ∃ x ∈ stripCtl rs, isSpace x = false := by
  rw [outOf, Ne, joinSp_eq_nil (words_fields _), fields_eq_nil_iff]
  simp

/-- `sanitize` sees the runes only through the stripped text (`TrimSpace` before `Fields` changes nothing) -/
theorem sanitize_eq (rs : List Rune) :
    sanitize rs = if (stripCtl rs).any isMeta then .error .badchars
      else if outOf rs = [] then .error .empty else .ok (outOf rs) := by
  unfold sanitize outOf
  simp only [fields_trimSpace, List.isEmpty_iff]

theorem sanitize_congr {a b : List Rune} (hm : (stripCtl a).any isMeta = (stripCtl b).any isMeta)
    (hf : fields (stripCtl a) = fields (stripCtl b)) : sanitize a = sanitize b := by
  rw [sanitize_eq, sanitize_eq, hm, outOf, outOf, hf]

theorem validate_ok_iff (q r : Bytes) :
    validate q = .ok r ↔
      blank (decodeGo q) = false ∧ q.length ≤ maxQueryLength ∧ (stripCtl (decodeGo q)).any isMeta = false ∧
      outOf (decodeGo q) ≠ [] ∧ r = encodeGo (outOf (decodeGo q)) := by
  unfold validate
  simp only [sanitize_eq]
  by_cases hb : blank (decodeGo q) = true
  · simp [hb]
  by_cases hl : q.length > maxQueryLength
  · simp [hb, hl, Nat.not_le.mpr hl]
  by_cases hm : (stripCtl (decodeGo q)).any isMeta = true
  · simp [hb, hl, hm]
  by_cases ho : outOf (decodeGo q) = []
  · simp [hb, hl, hm, ho]
  · simp [hb, hl, hm, ho, Nat.le_of_not_lt hl, eq_comm]

theorem validate_error_toolong {q : Bytes} (hb : blank (decodeGo q) = false) (hl : q.length > maxQueryLength) :
    validate q = .error .toolong := by
  unfold validate
  simp [hb, hl]

theorem not_blank_cons {b : UInt8} (hb : b.toNat < 0x80) (hs : isSpace b.toNat = false) (t : Bytes) :
    blank (decodeGo (b :: t)) = false := by
  have h : decodeGo (b :: t) = .cp b.toNat :: decodeGo t := by
    unfold decodeGo; rw [List.map_cons, decodeNat_cons, decode1_1 hb]; rfl
  rw [h, blank, List.all_cons, Rune.isBad, Rune.val, hs]; rfl

theorem not_blank_of_out {rs : List Rune} (h : outOf rs ≠ []) : blank rs = false := by
  cases hb : blank rs
  · rfl
  · obtain ⟨x, hx, hs⟩ := (outOf_ne_nil_iff rs).mp h
    obtain ⟨_, r, hr, rfl⟩ := mem_stripCtl.mp hx
    have := List.all_eq_true.mp hb r hr
    rw [isSpace_out] at hs
    rw [hs, Bool.and_false] at this
    cases this

/-- a metacharacter is never stripped, and the replacement byte is none: the stripped text has one iff the runes have -/
theorem any_meta_stripCtl (rs : List Rune) : (stripCtl rs).any isMeta = false ↔ ∀ ru ∈ rs, isMeta ru.val = false := by
  rw [List.any_eq_false]
  constructor
  · intro h ru hru
    cases hm : isMeta ru.val
    · rfl
    · rw [← isMeta_out] at hm
      exact absurd hm (h _ (mem_stripCtl.mpr ⟨meta_kept hm, ru, hru, rfl⟩))
  · intro h x hx
    obtain ⟨_, r, hr, rfl⟩ := mem_stripCtl.mp hx
    rw [isMeta_out, h r hr]; exact Bool.false_ne_true

theorem validate_isOk_iff (q : Bytes) :
    (∃ r, validate q = .ok r) ↔
      q.length ≤ maxQueryLength ∧ (∀ ru ∈ decodeGo q, isMeta ru.val = false) ∧
      (∃ c ∈ stripCtl (decodeGo q), isSpace c = false) := by
  rw [← any_meta_stripCtl, ← outOf_ne_nil_iff]
  exact ⟨fun ⟨r, h⟩ => let ⟨_, h2, h3, h4, _⟩ := (validate_ok_iff q r).mp h; ⟨h2, h3, h4⟩,
    fun ⟨h2, h3, h4⟩ => ⟨_, (validate_ok_iff q _).mpr ⟨not_blank_of_out h4, h2, h3, h4, rfl⟩⟩⟩

theorem decodeGo_append (a b : Bytes) : decodeGo (a ++ b) = decodeNat (a.map (·.toNat) ++ b.map (·.toNat)) := by
  simp [decodeGo]

theorem toNat_encodeGo (cs : List Nat) : (encodeGo cs).map (·.toNat) = encodeAll cs :=
  toNat_toBytes _ (encodeAll_lt cs)

theorem length_encodeGo (cs : List Nat) : (encodeGo cs).length = (encodeAll cs).length := by
  simp [encodeGo, toBytes]

theorem meta_bytes_iff (q : Bytes) : (∀ b ∈ q, isMeta b.toNat = false) ↔ (∀ ru ∈ decodeGo q, isMeta ru.val = false) := by
  -- a metacharacter is ASCII, so it is a byte of the string iff it is one of its characters
  have key : (∃ b ∈ q, isMeta b.toNat = true) ↔ ∃ ru ∈ decodeGo q, isMeta ru.val = true := by
    constructor
    · rintro ⟨b, hb, hm⟩
      obtain ⟨ru, hru, e⟩ := (ascii_mem_decode _ _ (meta_plain hm).2.2).mp (List.mem_map_of_mem hb)
      exact ⟨ru, hru, e ▸ hm⟩
    · rintro ⟨ru, hru, hm⟩
      obtain ⟨b, hb, e⟩ := List.mem_map.mp ((ascii_mem_decode _ _ (meta_plain hm).2.2).mpr ⟨ru, hru, rfl⟩)
      exact ⟨b, hb, e ▸ hm⟩
  simpa using not_congr key

theorem forall_mem_outOf {rs : List Rune} {P : Nat → Prop} (h20 : P 0x20)
    (h : ∀ x ∈ stripCtl rs, isSpace x = false → P x) : ∀ x ∈ outOf rs, P x := by
  intro x hx
  rcases mem_joinSp hx with rfl | ⟨f, hf, hxf⟩
  · exact h20
  · exact h x (mem_fields hf hxf).1 (mem_fields hf hxf).2

theorem chars_encodeGo {cs : List Nat} (h : ∀ c ∈ cs, scalar c) : chars (encodeGo cs) = cs := by
  unfold chars; rw [decode_encode cs h, List.map_map]; exact List.map_id cs

/-- What an accepted text satisfies (`clean_outOf`); enough to make it a fixed point of `sanitize` (`sanitize_clean`). -/
structure Clean (out : List Nat) : Prop where
  ws : ∃ ws, Words ws ∧ ws ≠ [] ∧ out = joinSp ws
  noCtl : ∀ x ∈ out, isControl x = false
  noMeta : ∀ x ∈ out, isMeta x = false
  scal : ∀ x ∈ out, scalar x
  spaces : ∀ x ∈ out, isSpace x = true → x = 0x20

theorem clean_outOf {q : Bytes} (hm : (stripCtl (decodeGo q)).any isMeta = false) (hne : outOf (decodeGo q) ≠ []) :
    Clean (outOf (decodeGo q)) := by
  refine ⟨⟨_, words_fields _, fun h => hne (by rw [outOf, h]; rfl), rfl⟩, ?_, ?_, ?_, ?_⟩
  · exact forall_mem_outOf isControl_sp fun x h hs => not_control_of_kept_nonspace (mem_stripCtl.mp h).1 hs
  · exact forall_mem_outOf isMeta_sp fun x h _ => by simpa using List.any_eq_false.mp hm x h
  · refine forall_mem_outOf scalar_sp fun x h _ => ?_
    obtain ⟨_, r, hr, rfl⟩ := mem_stripCtl.mp h
    exact decodeNat_scalar_out _ r hr
  · exact forall_mem_outOf (fun _ => rfl) fun x _ hs hs' => by rw [hs] at hs'; cases hs'

theorem Clean.ne_nil {out : List Nat} (h : Clean out) : out ≠ [] := by
  obtain ⟨ws, hw, hne, rfl⟩ := h.ws
  rw [Ne, joinSp_eq_nil hw]; exact hne

theorem Clean.noEdge {out : List Nat} (h : Clean out) : noEdgeSpace out := by
  obtain ⟨ws, hw, _, rfl⟩ := h.ws
  exact ⟨head_joinSp hw, getLast_joinSp hw⟩

theorem Clean.noAdj {out : List Nat} (h : Clean out) : noAdjSpace out := by
  obtain ⟨ws, hw, _, rfl⟩ := h.ws
  exact noAdjSpace_joinSp hw

theorem stripCtl_map_cp (cs : List Nat) : stripCtl (cs.map .cp) = cs.filter kept := by
  simp [stripCtl_eq, Rune.out, Function.comp_def]

theorem blank_map_cp (cs : List Nat) : blank (cs.map .cp) = cs.all isSpace := by
  simp [blank, Rune.isBad, Rune.val, List.all_map, Function.comp_def]

theorem stripCtl_clean {out : List Nat} (h : Clean out) : stripCtl (out.map .cp) = out := by
  rw [stripCtl_map_cp]; exact List.filter_eq_self.mpr fun x hx => kept_of_not_control (h.noCtl x hx)

theorem outOf_clean {out : List Nat} (h : Clean out) : outOf (out.map .cp) = out := by
  obtain ⟨ws, hw, _, e⟩ := h.ws
  rw [outOf, stripCtl_clean h, e, fields_joinSp hw]

theorem sanitize_clean {out : List Nat} (h : Clean out) : sanitize (out.map .cp) = .ok out := by
  have hm : out.any isMeta = false := List.any_eq_false.mpr fun x hx => by simp [h.noMeta x hx]
  rw [sanitize_eq, stripCtl_clean h, hm, outOf_clean h, if_neg Bool.false_ne_true, if_neg h.ne_nil]

theorem blank_clean {out : List Nat} (h : Clean out) : blank (out.map .cp) = false :=
  not_blank_of_out (by rw [outOf_clean h]; exact h.ne_nil)

theorem validate_clean {out : List Nat} (h : Clean out) :
    validate (encodeGo out) =
      if (encodeGo out).length > maxQueryLength then .error .toolong else .ok (encodeGo out) := by
  have hd : decodeGo (encodeGo out) = out.map .cp := decode_encode out h.scal
  unfold validate
  simp only [hd, blank_clean h, Bool.false_eq_true, if_false, sanitize_clean h]

def byteLen (c : Nat) : Nat := (encodeNat c).length

theorem encodeAll_length (cs : List Nat) : (encodeAll cs).length = weight byteLen cs := by
  rw [encodeAll, List.length_flatMap]; rfl

theorem byteLen_pos (c : Nat) : 1 ≤ byteLen c := by
  unfold byteLen encodeNat
  split <;> exact encodeScalar_length_pos _

theorem byteLen_sp : byteLen 0x20 = 1 := by decide

theorem weight_outOf_le (w : Nat → Nat) (hw : ∀ c, isSpace c = true → w 0x20 ≤ w c) (rs : List Rune) :
    weight w (outOf rs) ≤ weight w (rs.map Rune.out) := by
  rw [outOf]
  have h1 := weight_collapse w hw (stripCtl rs)
  have h2 : weight w (stripCtl rs) ≤ weight w (rs.map Rune.out) := by
    rw [stripCtl_eq]; exact weight_filter_le w kept _
  omega

theorem weight_one (l : List Nat) : weight (fun _ => 1) l = l.length := by
  simp [weight, List.map_const', List.sum_replicate_nat]

theorem length_outOf_le (rs : List Rune) : (outOf rs).length ≤ rs.length := by
  have := weight_outOf_le (fun _ => 1) (fun _ _ => Nat.le_refl _) rs
  rwa [weight_one, weight_one, List.length_map] at this

/-- the accepted text is never longer, in bytes, than the input (every step of the function copies, drops or
    replaces by something not longer: an invalid byte by one byte, a white-space run by one space) -/
theorem bytes_outOf_le (q : Bytes) : (encodeGo (outOf (decodeGo q))).length ≤ q.length := by
  have := weight_outOf_le byteLen (fun c _ => by rw [byteLen_sp]; exact byteLen_pos c) (decodeGo q)
  rwa [← encodeAll_length, ← encodeAll_length, decodeGo, encode_out_length, List.length_map, ← length_encodeGo] at this

theorem blank_append (a b : List Rune) : blank (a ++ b) = (blank a && blank b) := by simp [blank]

theorem any_meta_spaces {s : List Nat} (h : ∀ x ∈ s, isSpace x = true) : s.any isMeta = false := by
  rw [List.any_eq_false]
  intro x hx hm
  have := (meta_plain hm).1
  rw [h x hx] at this
  cases this

theorem filter_spaces {s : List Nat} (h : ∀ x ∈ s, isSpace x = true) : ∀ x ∈ s.filter kept, isSpace x = true :=
  fun x hx => h x (List.mem_filter.mp hx).1

theorem sanitize_pad (s₁ s₂ : List Nat) (h₁ : ∀ x ∈ s₁, isSpace x = true) (h₂ : ∀ x ∈ s₂, isSpace x = true) (rs : List Rune) :
    sanitize (s₁.map .cp ++ rs ++ s₂.map .cp) = sanitize rs ∧
    blank (s₁.map .cp ++ rs ++ s₂.map .cp) = blank rs := by
  have f₁ := filter_spaces h₁
  have f₂ := filter_spaces h₂
  refine ⟨?_, ?_⟩
  · apply sanitize_congr <;> rw [stripCtl_append, stripCtl_append, stripCtl_map_cp, stripCtl_map_cp]
    · rw [List.any_append, List.any_append, any_meta_spaces f₁, any_meta_spaces f₂, Bool.false_or, Bool.or_false]
    · rw [fields_append_spaces f₂, fields_spaces_append f₁]
  · rw [blank_append, blank_append, blank_map_cp, blank_map_cp, List.all_eq_true.mpr h₁, List.all_eq_true.mpr h₂,
      Bool.true_and, Bool.and_true]

/-- `hk` is needed: a run made only of white-space characters that the control strip removes (`\r`) joins its
    neighbours instead of separating them -/
theorem sanitize_inner (s : List Nat) (hs : ∀ x ∈ s, isSpace x = true) (hk : ∃ x ∈ s, kept x = true) (a b : List Rune) :
    sanitize (a ++ s.map .cp ++ b) = sanitize (a ++ [Rune.cp 0x20] ++ b) ∧
    blank (a ++ s.map .cp ++ b) = blank (a ++ [Rune.cp 0x20] ++ b) := by
  have e2 : stripCtl [Rune.cp 0x20] = [0x20] := by decide
  have f := filter_spaces hs
  have fne : s.filter kept ≠ [] := by
    obtain ⟨x, hx, hkx⟩ := hk
    exact List.ne_nil_of_mem (List.mem_filter.mpr ⟨hx, hkx⟩)
  have sp20 : ∀ x ∈ [0x20], isSpace x = true := List.forall_mem_singleton.mpr isSpace_sp
  refine ⟨?_, ?_⟩
  · apply sanitize_congr <;> simp only [stripCtl_append, stripCtl_map_cp, e2]
    · simp only [List.any_append, any_meta_spaces f, any_meta_spaces sp20]
    · rw [fields_inner f fne, fields_inner sp20 (by simp)]
  · simp only [blank_append, blank_map_cp, List.all_eq_true.mpr hs]
    rfl

theorem decodeGo_pad (s₁ s₂ : List Nat) (h₁ : ∀ c ∈ s₁, isSpace c = true) (h₂ : ∀ c ∈ s₂, isSpace c = true) (q : Bytes) :
    decodeGo (encodeGo s₁ ++ q ++ encodeGo s₂) = s₁.map .cp ++ decodeGo q ++ s₂.map .cp := by
  unfold decodeGo
  rw [List.map_append, List.map_append, toNat_encodeGo, toNat_encodeGo, List.append_assoc,
    decodeNat_encodeAll s₁ (fun c hc => space_scalar (h₁ c hc)),
    decodeNat_append _ _ (by simpa using startOK_encodeAll s₂ [] (fun _ => trivial))]
  have := decodeNat_encodeAll s₂ (fun c hc => space_scalar (h₂ c hc)) []
  rw [List.append_nil, decodeNat_nil, List.append_nil] at this
  rw [this, List.append_assoc]

theorem decodeGo_inner (s : List Nat) (hs : ∀ c ∈ s, isSpace c = true) (hne : s ≠ []) (a b : Bytes) :
    decodeGo (a ++ encodeGo s ++ b) = decodeGo a ++ s.map .cp ++ decodeGo b := by
  unfold decodeGo
  rw [List.map_append, List.map_append, toNat_encodeGo, List.append_assoc,
    decodeNat_append _ _ (startOK_encodeAll s _ (fun h => absurd h hne)),
    decodeNat_encodeAll s (fun c hc => space_scalar (hs c hc)), List.append_assoc]

theorem encodeGo_sp : encodeGo [0x20] = [0x20] := by decide

theorem decodeNat_replicate_FF (n : Nat) : decodeNat (List.replicate n 0xFF) = List.replicate n (.bad 0xFF) := by
  induction n with
  | zero => exact decodeNat_nil
  | succ n ih =>
    rw [List.replicate_succ, decodeNat_bad rfl, ih, List.replicate_succ]

theorem weight_replicate (w : Nat → Nat) (n c : Nat) : weight w (List.replicate n c) = n * w c := by
  rw [weight, List.map_replicate, List.sum_replicate_nat]

theorem encodeGo_replicate_repl (n : Nat) :
    encodeGo (List.replicate n Wtf.Gen.Validate.invalidRepl) = List.replicate n (UInt8.ofNat Wtf.Gen.Validate.invalidRepl) := by
  rw [encodeGo, toBytes, encodeAll, List.flatMap_replicate, encodeNat_repl, List.flatten_replicate_singleton, List.map_replicate]

theorem validate_replicate_FF (n : Nat) (h0 : 0 < n) (hn : n ≤ maxQueryLength) :
    validate (List.replicate n 0xFF) = .ok (List.replicate n (UInt8.ofNat Wtf.Gen.Validate.invalidRepl)) := by
  have hd : decodeGo (List.replicate n 0xFF) = List.replicate n (.bad 0xFF) := by
    rw [decodeGo, List.map_replicate]; exact decodeNat_replicate_FF n
  have hs : stripCtl (List.replicate n (.bad 0xFF)) = List.replicate n Wtf.Gen.Validate.invalidRepl := by
    rw [stripCtl_eq, List.map_replicate, List.filter_replicate]
    exact if_pos kept_repl
  have hne : List.replicate n Wtf.Gen.Validate.invalidRepl ≠ [] := by rw [Ne, List.replicate_eq_nil_iff]; omega
  have ho : outOf (List.replicate n (.bad 0xFF)) = List.replicate n Wtf.Gen.Validate.invalidRepl := by
    rw [outOf, hs, fields_word hne (by intro x hx; rw [List.eq_of_mem_replicate hx]; decide)]
    rfl
  rw [validate_ok_iff, hd, ho, hs]
  refine ⟨?_, by simpa using hn, ?_, hne, (encodeGo_replicate_repl n).symm⟩
  · rw [blank, List.all_replicate, if_neg (by omega)]; rfl
  · rw [List.any_replicate, if_neg (by omega)]; decide

theorem validateLimit_neg {n : Int} (h : n < 0) : validateLimit n = .error 0 := if_pos h
theorem validateLimit_big {n : Int} (h : maxLimit < n) : validateLimit n = .error maxLimit := by
  have := maxLimit_eq
  unfold validateLimit; rw [if_neg (by omega), if_neg (by omega), if_pos h]
theorem validateLimit_mid {n : Int} (h0 : 0 < n) (h1 : n ≤ maxLimit) : validateLimit n = .ok n := by
  unfold validateLimit; rw [if_neg (by omega), if_neg (by omega), if_neg (by omega)]

theorem validateLimit_ok_iff (n : Int) : (∃ m, validateLimit n = .ok m) ↔ 0 ≤ n ∧ n ≤ maxLimit := by
  rcases Int.lt_trichotomy n 0 with h | rfl | h
  · rw [validateLimit_neg h]; constructor
    · rintro ⟨m, hm⟩; cases hm
    · omega
  · exact ⟨fun _ => ⟨Int.le_refl 0, by decide⟩, fun _ => ⟨_, rfl⟩⟩
  · by_cases h1 : n ≤ maxLimit
    · exact ⟨fun _ => ⟨by omega, h1⟩, fun _ => ⟨n, validateLimit_mid h h1⟩⟩
    · rw [validateLimit_big (by omega)]; constructor
      · rintro ⟨m, hm⟩; cases hm
      · omega

end Wtf.Validate
