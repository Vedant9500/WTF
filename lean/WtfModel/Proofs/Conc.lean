import WtfModel.Model.Conc
import WtfModel.Proofs.ListBasics

/-! Invariants of the concurrent model (C11): mutual exclusion, commit-point linearizability,
    soundness of the executable checker, counters, lock-free readers.  Core Lean only.

    The invariant `Inv` has three parts that do not look at each other: `ThreadOK` (one thread against lock, object,
    clock and trace; a thread that does not move is carried over a step by the one frame lemma `ThreadOK.frame`), the
    lock word (`wr_rd`), and `TraceOK` (the ghost trace against object, clock and history; one lemma per rule that
    touches it, no threads in sight).  Each of the seven rules of `tstep` then says which fields of `ThreadOK` change
    for the moving thread, why the shared part changed compatibly for the others, and which trace lemma applies. -/
namespace Wtf.Conc

variable {σ ι ο : Type}

/-- The lock discipline on the model side: an operation that takes the lock in shared mode does not
    change the object.  (For the LRU this is discharged from the regenerated lock facts.) -/
def ReadersPure (S : Spec σ ι ο) : Prop := ∀ i s, S.mode i = .shared → (S.step s i).1 = s

@[simp] theorem upd_same (f : Nat → Thread σ ι ο) (t : Nat) (v : Thread σ ι ο) : upd f t v t = v := by
  simp [upd]

theorem upd_other (f : Nat → Thread σ ι ο) {t u : Nat} (h : u ≠ t) (v : Thread σ ι ο) : upd f t v u = f u := by
  simp [upd, h]

theorem forall_upd {P : Nat → PC σ ι ο → Prop} {f : Nat → Thread σ ι ο} {t : Nat} {v : Thread σ ι ο}
    (ht : P t v.pc) (ho : ∀ u, u ≠ t → P u (f u).pc) : ∀ u, P u (upd f t v u).pc := by
  intro u
  by_cases hu : u = t
  · subst hu; rw [upd_same]; exact ht
  · rw [upd_other _ hu]; exact ho u hu

theorem runSeq_append (step : σ → ι → σ × ο) (s : σ) (xs : List ι) (i : ι) :
    runSeq step s (xs ++ [i]) =
      ((step (runSeq step s xs).1 i).1, (runSeq step s xs).2 ++ [(step (runSeq step s xs).1 i).2]) := by
  induction xs generalizing s with
  | nil => simp [runSeq]
  | cons x xs ih => simp [runSeq, ih]

theorem runSeq_length (step : σ → ι → σ × ο) (s : σ) (xs : List ι) : (runSeq step s xs).2.length = xs.length := by
  induction xs generalizing s with
  | nil => simp [runSeq]
  | cons x xs ih => simp [runSeq, ih]

def PC.invStamp : PC σ ι ο → Option Nat
  | .invoked _ n => some n
  | .acquired _ n => some n
  | .loaded _ n _ => some n
  | _ => none

/-- the local copy of the object a thread holds between load and commit -/
def PC.loc : PC σ ι ο → Option σ
  | .loaded _ _ l => some l
  | _ => none

/-- the trace entry that thread `u` has written and not yet answered -/
def PC.entry (u : Nat) : PC σ ι ο → Option (TEntry ι ο)
  | .committed i n l o => some ⟨u, i, o, n, l, none⟩
  | .released i n l o => some ⟨u, i, o, n, l, none⟩
  | _ => none

theorem PC.holding_of_loc : ∀ {pc : PC σ ι ο} {l : σ}, pc.loc = some l → ∃ i, pc.holding = some i
  | .loaded i _ _, _, _ => ⟨i, rfl⟩

section
variable {S : Spec σ ι ο}
private theorem holds_congr {th th' : Thread σ ι ο} (h : th'.pc.holding = th.pc.holding) :
    (holdsExcl S th' ↔ holdsExcl S th) ∧ (holdsShared S th' ↔ holdsShared S th) := by
  simp [holdsExcl, holdsShared, h]
end

/-- What lock, object, clock and trace have to do with thread `u` being at `pc`.  Each field looks at `pc` through one
    projection (`holding`, `loc`, `invStamp`, `entry`), so a step of `u` re-establishes only the fields whose projection,
    or whose part of the shared state, it changes: the others are carried over as they are (`{ h.thrAt hpc with … }`).
    `wr` and `rd` spell out `holdsExcl` and `holdsShared` of a thread at `pc`. -/
structure ThreadOK (S : Spec σ ι ο) (lk : Lock) (obj : σ) (clk : Nat) (tr : List (TEntry ι ο))
    (u : Nat) (pc : PC σ ι ο) : Prop where
  wr : (∃ i, pc.holding = some i ∧ S.mode i = .excl) ↔ lk.writer = some u
  rd : (∃ i, pc.holding = some i ∧ S.mode i = .shared) ↔ u ∈ lk.readers
  loc : ReadersPure S → ∀ l, pc.loc = some l → l = obj
  stamp : ∀ n, pc.invStamp = some n → n < clk
  pend : ∀ e : TEntry ι ο, e.tid = u → e.res = none → (e ∈ tr ↔ pc.entry u = some e)

/-- The frame lemma: a thread that does not move stays consistent with the shared part if, as far as it can
    tell, the shared part has not changed: same lock membership, same object while it holds a local copy, a
    clock that did not go back, the same unanswered trace entries of its own.  A rule names only what it changes. -/
theorem ThreadOK.frame {S : Spec σ ι ο} {lk lk' : Lock} {obj obj' : σ} {clk clk' : Nat} {tr tr' : List (TEntry ι ο)}
    {u : Nat} {pc : PC σ ι ο} (h : ThreadOK S lk obj clk tr u pc)
    (hw : lk'.writer = some u ↔ lk.writer = some u := by exact Iff.rfl)
    (hr : u ∈ lk'.readers ↔ u ∈ lk.readers := by exact Iff.rfl)
    (hobj : ReadersPure S → ∀ l, pc.loc = some l → obj' = obj := by exact fun _ _ _ => rfl)
    (hclk : clk ≤ clk' := by exact Nat.le_refl _)
    (htr : ∀ e : TEntry ι ο, e.tid = u → e.res = none → (e ∈ tr' ↔ e ∈ tr) := by exact fun _ _ _ => Iff.rfl) :
    ThreadOK S lk' obj' clk' tr' u pc where
  wr := h.wr.trans hw.symm
  rd := h.rd.trans hr.symm
  loc hp l hl := (h.loc hp l hl).trans (hobj hp l hl).symm
  stamp n hn := Nat.lt_of_lt_of_le (h.stamp n hn) hclk
  pend e hu hres := (htr e hu hres).trans (h.pend e hu hres)

/-- the stamps of a trace entry are in order (invoked, committed, answered), and the commit lies in the past -/
def TEntry.stampOK (clk : Nat) (e : TEntry ι ο) : Prop :=
  e.inv < e.lin ∧ e.lin < clk ∧ ∀ r, e.res = some r → e.lin < r

theorem TEntry.stampOK.mono {clk clk' : Nat} {e : TEntry ι ο} (h : e.stampOK clk) (hc : clk ≤ clk') :
    e.stampOK clk' :=
  ⟨h.1, Nat.lt_of_lt_of_le h.2.1 hc, h.2.2⟩

structure TraceOK (S : Spec σ ι ο) (s0 obj : σ) (clk : Nat) (hist : List (Rec ι ο)) (tr : List (TEntry ι ο)) : Prop where
  lin : tr.Pairwise (fun a b => a.lin < b.lin)
  stamp : ∀ e ∈ tr, e.stampOK clk
  run : ReadersPure S → runSeq S.step s0 (tr.map (·.op)) = (obj, tr.map (·.out))
  hist : hist.Perm (tr.filterMap TEntry.complete?)

theorem eq_of_lin_eq {l : List (TEntry ι ο)} (h : l.Pairwise (fun a b => a.lin < b.lin))
    {a b : TEntry ι ο} (ha : a ∈ l) (hb : b ∈ l) (hab : a.lin = b.lin) : a = b :=
  inj_of_nodup_map (·.lin) (List.pairwise_map.mpr (h.imp Nat.ne_of_lt)) ha hb hab

theorem setRes_eq (l r : Nat) (e : TEntry ι ο) :
    setRes l r e = { e with res := if e.lin = l then some r else e.res } := by
  unfold setRes; split <;> simp [*]

theorem setRes_tid (l r : Nat) (e : TEntry ι ο) : (setRes l r e).tid = e.tid := by
  unfold setRes; split <;> rfl

theorem setRes_of_ne {l r : Nat} {e : TEntry ι ο} (h : e.lin ≠ l) : setRes l r e = e := if_neg h

theorem map_setRes_of_ne {l r : Nat} {tr : List (TEntry ι ο)} (h : ∀ y ∈ tr, y.lin ≠ l) : tr.map (setRes l r) = tr := by
  rw [List.map_congr_left fun y hy => setRes_of_ne (h y hy), List.map_id']

theorem mem_map_setRes {tr : List (TEntry ι ο)} {l c : Nat} {e : TEntry ι ο} (hres : e.res = none) :
    e ∈ tr.map (setRes l c) ↔ e ∈ tr ∧ e.lin ≠ l := by
  constructor
  · intro he
    obtain ⟨e0, he0, rfl⟩ := List.mem_map.mp he
    by_cases hl : e0.lin = l
    · simp [setRes, hl] at hres
    · rw [setRes_of_ne hl]; exact ⟨he0, hl⟩
  · intro ⟨he, hl⟩
    exact List.mem_map.mpr ⟨e, he, setRes_of_ne hl⟩

theorem filterMap_setRes {tr : List (TEntry ι ο)} (hs : tr.Pairwise (fun a b => a.lin < b.lin))
    {e : TEntry ι ο} (he : e ∈ tr) (hres : e.res = none) (r : Nat) :
    ((tr.map (setRes e.lin r)).filterMap TEntry.complete?).Perm
      (⟨e.tid, e.op, e.out, e.inv, r⟩ :: tr.filterMap TEntry.complete?) := by
  induction tr with
  | nil => cases he
  | cons x xs ih =>
    obtain ⟨hx, hxs⟩ := List.pairwise_cons.mp hs
    rw [List.map_cons, List.filterMap_cons, List.filterMap_cons]
    rcases List.mem_cons.mp he with rfl | he
    · -- `e` is the head: it is switched on, and the entries behind it carry later stamps
      rw [map_setRes_of_ne fun y hy => Nat.ne_of_gt (hx y hy)]
      simp [setRes, TEntry.complete?, hres]
    · -- `e` is further back: the head carries an earlier stamp
      rw [setRes_of_ne (Nat.ne_of_lt (hx e he))]
      cases x.complete? with
      | none => exact ih hxs he
      | some c => exact ((ih hxs he).cons c).trans (List.Perm.swap ..)

section Trace
variable {S : Spec σ ι ο} {s0 obj : σ} {clk : Nat} {hist : List (Rec ι ο)} {tr : List (TEntry ι ο)}

theorem TraceOK.tick (h : TraceOK S s0 obj clk hist tr) : TraceOK S s0 obj (clk + 1) hist tr :=
  { h with stamp := fun e he => (h.stamp e he).mono (Nat.le_succ _) }

theorem TraceOK.commit (h : TraceOK S s0 obj clk hist tr) (t : Nat) (i : ι) {n : Nat} (hn : n < clk) {l : σ}
    (hl : ReadersPure S → l = obj) :
    TraceOK S s0 (S.step l i).1 (clk + 1) hist (tr ++ [⟨t, i, (S.step l i).2, n, clk, none⟩]) where
  lin := List.pairwise_append.mpr ⟨h.lin, List.pairwise_singleton _ _, fun a ha b hb => by
    cases List.mem_singleton.mp hb; exact (h.stamp a ha).2.1⟩
  stamp e he := by
    rcases List.mem_append.mp he with he | he
    · exact (h.stamp e he).mono (Nat.le_succ _)
    · cases List.mem_singleton.mp he
      exact ⟨hn, Nat.lt_succ_self _, fun _ hr => by cases hr⟩
  run hp := by
    cases hl hp
    simp only [List.map_append, List.map_cons, List.map_nil]
    rw [runSeq_append, h.run hp]
  hist := by
    -- the new entry is unanswered: the completed part of the trace is what it was
    rw [List.filterMap_append]
    exact (List.append_nil _).symm ▸ h.hist

theorem TraceOK.respond (h : TraceOK S s0 obj clk hist tr) {t : Nat} {i : ι} {o : ο} {n l : Nat}
    (he0 : (⟨t, i, o, n, l, none⟩ : TEntry ι ο) ∈ tr) :
    TraceOK S s0 obj (clk + 1) (hist ++ [⟨t, i, o, n, clk⟩]) (tr.map (setRes l clk)) where
  lin := by
    rw [List.pairwise_map]
    exact h.lin.imp fun hab => by rw [setRes_eq, setRes_eq]; exact hab
  stamp e' he' := by
    obtain ⟨e, he, rfl⟩ := List.mem_map.mp he'
    have hs := (h.stamp e he).mono (Nat.le_succ clk)
    rw [setRes_eq]
    refine ⟨hs.1, hs.2.1, fun r hr => ?_⟩
    split at hr
    · cases hr; exact (h.stamp e he).2.1
    · exact hs.2.2 r hr
  run hp := by
    simp only [List.map_map, Function.comp_def, setRes_eq]
    exact h.run hp
  hist := by
    have hf := filterMap_setRes h.lin he0 rfl clk
    exact (List.perm_append_singleton _ _).trans ((List.Perm.cons _ h.hist).trans hf.symm)

end Trace

structure Inv (S : Spec σ ι ο) (s0 : σ) (s : Sys σ ι ο) : Prop where
  thr : ∀ t, ThreadOK S s.lock s.obj s.clk s.trace t (s.threads t).pc
  wr_rd : s.lock.writer ≠ none → s.lock.readers = []
  tr : TraceOK S s0 s.obj s.clk s.hist s.trace

theorem inv_init (S : Spec σ ι ο) (s0 : σ) (progs : List (List ι)) : Inv S s0 (init s0 progs) where
  thr t :=
    { wr := ⟨fun ⟨_, hi, _⟩ => (by cases hi), fun hx => (by cases hx)⟩
      rd := ⟨fun ⟨_, hi, _⟩ => (by cases hi), fun hx => (by cases hx)⟩
      loc := fun _ _ hl => by cases hl
      stamp := fun _ hn => by cases hn
      pend := fun e _ _ => ⟨fun he => (by cases he), fun hp => (by cases hp)⟩ }
  wr_rd := fun _ => rfl
  tr := ⟨List.Pairwise.nil, fun e he => (by cases he), fun _ => rfl, List.Perm.refl _⟩

section Step
variable {S : Spec σ ι ο} {s0 : σ} {s : Sys σ ι ο}

theorem Inv.thrAt (h : Inv S s0 s) {t : Nat} {pc : PC σ ι ο} (hpc : (s.threads t).pc = pc) :
    ThreadOK S s.lock s.obj s.clk s.trace t pc := hpc ▸ h.thr t

/-- Mutual exclusion needs no hypothesis on the specification. -/
theorem inv_mutex (h : Inv S s0 s) {t u : Nat} (htu : t ≠ u)
    (ht : holdsExcl S (s.threads t)) : ¬ holdsAny (s.threads u) := by
  intro ⟨j, hj⟩
  have hwt := (h.thr t).wr.mp ht
  cases hm : S.mode j with
  | excl =>
    have := (h.thr u).wr.mp ⟨j, hj, hm⟩
    rw [hwt] at this
    exact htu (Option.some.inj this)
  | shared =>
    have := (h.thr u).rd.mp ⟨j, hj, hm⟩
    rw [h.wr_rd (by simp [hwt])] at this
    cases this

/-- A thread that holds the lock while another thread holds it too holds it shared, so under the discipline its
    operation leaves the object as it is. -/
theorem inv_pure (h : Inv S s0 s) (hp : ReadersPure S) {t u : Nat} (htu : t ≠ u) {i : ι}
    (hi : (s.threads t).pc.holding = some i) (hu : holdsAny (s.threads u)) (x : σ) : (S.step x i).1 = x := by
  cases hm : S.mode i with
  | shared => exact hp i x hm
  | excl => exact absurd hu (inv_mutex h htu ⟨i, hi, hm⟩)

theorem inv_invoke (h : Inv S s0 s) (t : Nat) (i : ι) (rest : List ι)
    (hpc : (s.threads t).pc = .idle) :
    Inv S s0 { s with clk := s.clk + 1, threads := upd s.threads t ⟨rest, .invoked i s.clk⟩ } where
  thr := forall_upd { h.thrAt hpc with stamp := fun n hn => by cases hn; exact Nat.lt_succ_self _ }
    (fun u _ => (h.thr u).frame (hclk := Nat.le_succ _))
  wr_rd := h.wr_rd
  tr := h.tr.tick

theorem inv_acquire_excl (h : Inv S s0 s) (t : Nat) (i : ι) (n : Nat)
    (hpc : (s.threads t).pc = .invoked i n) (hm : S.mode i = .excl)
    (hw : s.lock.writer = none) (hr : s.lock.readers = []) :
    Inv S s0 { s with lock := ⟨some t, []⟩, threads := upd s.threads t ⟨(s.threads t).prog, .acquired i n⟩ } where
  thr := forall_upd { h.thrAt hpc with wr := by simp [PC.holding, hm], rd := by simp [PC.holding, hm] }
    (fun u hu => (h.thr u).frame (hw := by simp [hw, Ne.symm hu]) (hr := by simp [hr]))
  wr_rd := fun _ => rfl
  tr := h.tr

theorem inv_acquire_shared (h : Inv S s0 s) (t : Nat) (i : ι) (n : Nat)
    (hpc : (s.threads t).pc = .invoked i n) (hm : S.mode i = .shared)
    (hw : s.lock.writer = none) :
    Inv S s0 { s with lock := ⟨none, t :: s.lock.readers⟩,
                      threads := upd s.threads t ⟨(s.threads t).prog, .acquired i n⟩ } where
  thr := forall_upd { h.thrAt hpc with wr := by simp [PC.holding, hm], rd := by simp [PC.holding, hm] }
    (fun u hu => (h.thr u).frame (hw := by simp [hw]) (hr := by simp [hu]))
  wr_rd := fun hx => absurd rfl hx
  tr := h.tr

theorem inv_load (h : Inv S s0 s) (t : Nat) (i : ι) (n : Nat)
    (hpc : (s.threads t).pc = .acquired i n) :
    Inv S s0 { s with threads := upd s.threads t ⟨(s.threads t).prog, .loaded i n s.obj⟩ } where
  thr := forall_upd { h.thrAt hpc with loc := fun _ _ hl => by cases hl; rfl } (fun u _ => h.thr u)
  wr_rd := h.wr_rd
  tr := h.tr

theorem inv_commit (h : Inv S s0 s) (t : Nat) (i : ι) (n : Nat) (l : σ)
    (hpc : (s.threads t).pc = .loaded i n l) :
    Inv S s0 { s with obj := (S.step l i).1, clk := s.clk + 1,
                      threads := upd s.threads t ⟨(s.threads t).prog, .committed i n s.clk (S.step l i).2⟩,
                      trace := s.trace ++ [⟨t, i, (S.step l i).2, n, s.clk, none⟩] } := by
  have ht := h.thrAt hpc
  have hl : ReadersPure S → l = s.obj := fun hp => ht.loc hp l rfl
  exact {
    thr := forall_upd
      { ht with
        loc := fun _ _ hl => by cases hl
        stamp := fun _ hm => by cases hm
        pend := fun e hu hr => by
          rw [List.mem_append, ht.pend e hu hr, List.mem_singleton]
          simp [PC.entry, eq_comm] }
      (fun u hu => (h.thr u).frame (hclk := Nat.le_succ _)
        -- a thread that holds a local copy holds the lock, as `t` does: this commit is a pure read
        (hobj := fun hp _ hul => by
          cases hl hp; exact inv_pure h hp (Ne.symm hu) (by rw [hpc]; rfl) (PC.holding_of_loc hul) _)
        (htr := fun e he _ => by
          have : e ≠ ⟨t, i, (S.step l i).2, n, s.clk, none⟩ := fun hx => hu (by rw [← he, hx])
          simp [this]))
    wr_rd := h.wr_rd
    tr := h.tr.commit t i (ht.stamp n rfl) hl }

theorem inv_release (h : Inv S s0 s) (t : Nat) (i : ι) (n l : Nat) (o : ο)
    (hpc : (s.threads t).pc = .committed i n l o) :
    Inv S s0 { s with lock := (match S.mode i with
                                | .excl => ⟨none, s.lock.readers⟩
                                | .shared => ⟨s.lock.writer, s.lock.readers.filter (fun u => u != t)⟩),
                      threads := upd s.threads t ⟨(s.threads t).prog, .released i n l o⟩ } := by
  have ht := h.thrAt hpc
  have hex : s.lock.writer = some t ↔ S.mode i = .excl := ht.wr.symm.trans (by simp [PC.holding])
  cases hm : S.mode i with
  | excl =>
    -- `t` is the writer and there are no readers: the lock becomes free
    have hwt : s.lock.writer = some t := hex.mpr hm
    have hrd : s.lock.readers = [] := h.wr_rd (by simp [hwt])
    exact {
      thr := forall_upd { ht with wr := by simp [PC.holding], rd := by simp [PC.holding, hrd] }
        (fun u hu => (h.thr u).frame (hw := by simp [hwt, Ne.symm hu]))
      wr_rd := fun hx => absurd rfl hx
      tr := h.tr }
  | shared =>
    -- `t` is one of the readers and not the writer: it leaves the reader list
    have hwt : s.lock.writer ≠ some t := fun hx => by
      have := hex.mp hx; rw [hm] at this; cases this
    exact {
      thr := forall_upd { ht with wr := by simp [PC.holding, hwt], rd := by simp [PC.holding] }
        (fun u hu => (h.thr u).frame (hr := by simp [List.mem_filter, hu]))
      wr_rd := fun hx => by show List.filter _ _ = []; rw [h.wr_rd hx]; rfl
      tr := h.tr }

theorem inv_respond (h : Inv S s0 s) (t : Nat) (i : ι) (n l : Nat) (o : ο)
    (hpc : (s.threads t).pc = .released i n l o) :
    Inv S s0 { s with clk := s.clk + 1, hist := s.hist ++ [⟨t, i, o, n, s.clk⟩],
                      trace := s.trace.map (setRes l s.clk),
                      threads := upd s.threads t ⟨(s.threads t).prog, .idle⟩ } := by
  have ht := h.thrAt hpc
  have he0 : (⟨t, i, o, n, l, none⟩ : TEntry ι ο) ∈ s.trace := (ht.pend _ rfl rfl).mpr rfl
  exact {
    thr := forall_upd
      { ht with
        stamp := fun _ hs => by cases hs
        pend := fun e hu hr => by
          -- the entry being answered is the only unanswered entry of `t`
          rw [mem_map_setRes hr, ht.pend e hu hr]
          exact ⟨fun ⟨he, hl⟩ => absurd (by cases he; rfl) hl, fun hx => by cases hx⟩ }
      (fun u hu => (h.thr u).frame (hclk := Nat.le_succ _)
        -- and it is no other thread's
        (htr := fun e he hr => (mem_map_setRes hr).trans
          ⟨And.left, fun hx => ⟨hx, fun hl => hu (by rw [← he, eq_of_lin_eq h.tr.lin hx he0 hl])⟩⟩))
    wr_rd := h.wr_rd
    tr := h.tr.respond he0 }

theorem inv_tstep (h : Inv S s0 s) (t : Nat) : Inv S s0 (tstep S s t) := by
  -- one branch per rule; `‹_›` are the hypotheses the case split leaves (the program counter, the mode, the lock test)
  unfold tstep
  simp only
  split
  · split
    · exact h
    · exact inv_invoke h t _ _ ‹_›
  · split <;> split
    · exact inv_acquire_excl h t _ _ ‹_› ‹_› ‹_ ∧ _›.1 ‹_ ∧ _›.2
    · exact h
    · exact inv_acquire_shared h t _ _ ‹_› ‹_› ‹_›
    · exact h
  · exact inv_load h t _ _ ‹_›
  · exact inv_commit h t _ _ _ ‹_›
  · exact inv_release h t _ _ _ _ ‹_›
  · exact inv_respond h t _ _ _ _ ‹_›

theorem inv_exec (h : Inv S s0 s) (sch : List Nat) : Inv S s0 (exec S s sch) := by
  induction sch generalizing s with
  | nil => exact h
  | cons t ts ih => exact ih (inv_tstep h t)

end Step

theorem complete?_of_res {e : TEntry ι ο} {r : Nat} (h : e.res = some r) :
    e.complete? = some ⟨e.tid, e.op, e.out, e.inv, r⟩ := by
  simp [TEntry.complete?, h]

theorem filterMap_complete? {tr : List (TEntry ι ο)} (h : ∀ e ∈ tr, ∃ r, e.res = some r) :
    tr.filterMap TEntry.complete? = tr.map fun e => ⟨e.tid, e.op, e.out, e.inv, e.res.getD 0⟩ := by
  induction tr with
  | nil => rfl
  | cons x xs ih =>
    obtain ⟨r, hr⟩ := h x (List.mem_cons_self ..)
    rw [List.filterMap_cons, complete?_of_res hr, List.map_cons, ih fun e he => h e (List.mem_cons_of_mem _ he), hr]
    rfl

theorem inv_linearization {S : Spec σ ι ο} {s0 : σ} {s : Sys σ ι ο} (hp : ReadersPure S) (h : Inv S s0 s) (hq : Quiescent s) :
    IsLinearization S.step s0 s.hist (s.trace.filterMap TEntry.complete?) ∧
      (runSeq S.step s0 ((s.trace.filterMap TEntry.complete?).map (·.op))).1 = s.obj := by
  -- every entry is answered: an unanswered one would be remembered by its thread's program counter, and all are idle
  have hall : ∀ e ∈ s.trace, ∃ r, e.res = some r := by
    intro e he
    cases hr : e.res with
    | some r => exact ⟨r, rfl⟩
    | none => exact nomatch ((h.thrAt (hq e.tid)).pend e rfl hr).mp he
  have hw := filterMap_complete? hall
  refine ⟨⟨h.tr.hist.symm, ?_, ?_⟩, ?_⟩
  · -- real time: commit stamps are increasing along the trace and lie inside [inv, res]
    rw [hw, List.pairwise_map]
    refine h.tr.lin.imp_of_mem fun {a b} ha hb hab => ?_
    obtain ⟨rb, hrb⟩ := hall b hb
    have := (h.tr.stamp a ha).1
    have := (h.tr.stamp b hb).2.2 rb hrb
    simp only [hrb, Option.getD_some]
    omega
  · rw [hw, List.map_map, List.map_map]; exact congrArg Prod.snd (h.tr.run hp)
  · rw [hw, List.map_map]; exact congrArg Prod.fst (h.tr.run hp)

theorem pickEach_perm {α : Type} {l : List α} {p : α × List α} (h : p ∈ pickEach l) : (p.1 :: p.2).Perm l := by
  induction l generalizing p with
  | nil => cases h
  | cons a as ih =>
    simp only [pickEach, List.mem_cons, List.mem_map] at h
    rcases h with rfl | ⟨q, hq, rfl⟩
    · exact List.Perm.refl _
    · exact (List.Perm.swap _ _ _).trans (List.Perm.cons a (ih hq))

theorem pickEach_of_mem {α : Type} {l : List α} {a : α} (h : a ∈ l) : ∃ rest, (a, rest) ∈ pickEach l := by
  induction l with
  | nil => cases h
  | cons x xs ih =>
    rcases List.mem_cons.mp h with rfl | h'
    · exact ⟨xs, List.mem_cons_self ..⟩
    · obtain ⟨rest, hr⟩ := ih h'
      exact ⟨x :: rest, List.mem_cons_of_mem _ (List.mem_map.mpr ⟨(a, rest), hr, rfl⟩)⟩

/-- `Linearizable` unfolds the way `search` recurses. -/
theorem linearizable_iff (step : σ → ι → σ × ο) (s : σ) (rem : List (Rec ι ο)) :
    Linearizable step s rem ↔ rem = [] ∨ ∃ p ∈ pickEach rem, (∀ r' ∈ p.2, ¬ r'.res < p.1.inv) ∧
      (step s p.1.op).2 = p.1.out ∧ Linearizable step (step s p.1.op).1 p.2 := by
  constructor
  · rintro ⟨w, hw⟩
    cases w with
    | nil => exact Or.inl hw.perm.symm.eq_nil
    | cons a w =>
      obtain ⟨rest, hp⟩ := pickEach_of_mem (hw.perm.subset (List.mem_cons_self ..))
      have hrest : w.Perm rest := (hw.perm.trans (pickEach_perm hp).symm).cons_inv
      obtain ⟨hmin, hrt⟩ := List.pairwise_cons.mp hw.realtime
      have hleg := hw.legal
      simp only [List.map_cons, runSeq, List.cons.injEq] at hleg
      exact Or.inr ⟨(a, rest), hp, fun r' hr' => hmin r' (hrest.symm.subset hr'), hleg.1, w, hrest, hrt, hleg.2⟩
  · rintro (rfl | ⟨p, hp, hmin, hout, w, hw⟩)
    · exact ⟨[], .refl _, .nil, rfl⟩
    · refine ⟨p.1 :: w, (hw.perm.cons _).trans (pickEach_perm hp),
        List.pairwise_cons.mpr ⟨fun b hb => hmin b (hw.perm.subset hb), hw.realtime⟩, ?_⟩
      simp only [List.map_cons, runSeq]
      rw [hw.legal, hout]

theorem search_iff [DecidableEq ο] (step : σ → ι → σ × ο) (fuel : Nat) (s : σ) (rem : List (Rec ι ο))
    (h : rem.length ≤ fuel) : search step fuel s rem = true ↔ Linearizable step s rem := by
  induction fuel generalizing s rem with
  | zero =>
    cases List.eq_nil_of_length_eq_zero (Nat.le_zero.mp h)
    exact ⟨fun _ => (linearizable_iff ..).mpr (Or.inl rfl), fun _ => rfl⟩
  | succ fuel ih =>
    simp only [search, Bool.or_eq_true, List.isEmpty_iff, List.any_eq_true, Bool.and_eq_true, List.all_eq_true,
      Bool.not_eq_true', decide_eq_false_iff_not, decide_eq_true_eq]
    rw [linearizable_iff]
    refine or_congr_right (exists_congr fun p => and_congr_right fun hp => and_congr_right fun _ => and_congr_right fun _ => ?_)
    have : p.2.length + 1 = rem.length := (pickEach_perm hp).length_eq
    exact ih _ _ (by omega)

def sumAll (ps : List (List Int)) : Int := (ps.map List.sum).sum

theorem sumAll_set {ps : List (List Int)} {t : Nat} {d : Int} {rest : List Int}
    (h : ps[t]? = some (d :: rest)) : sumAll (ps.set t rest) + d = sumAll ps := by
  induction ps generalizing t with
  | nil => cases h
  | cons p ps ih =>
    cases t with
    | zero =>
      cases h
      show rest.sum + sumAll ps + d = d + rest.sum + sumAll ps
      omega
    | succ t =>
      show p.sum + sumAll (ps.set t rest) + d = p.sum + sumAll ps
      rw [← ih h, Int.add_assoc]

theorem AtomicCounter.step_total (c : AtomicCounter) (t : Nat) :
    (c.step t).val + sumAll (c.step t).progs = c.val + sumAll c.progs := by
  unfold AtomicCounter.step
  split
  · rename_i d rest h
    have := sumAll_set h
    simp only; omega
  · rfl

theorem AtomicCounter.exec_total (c : AtomicCounter) (sch : List Nat) :
    (c.exec sch).val + sumAll (c.exec sch).progs = c.val + sumAll c.progs := by
  induction sch generalizing c with
  | nil => rfl
  | cons t ts ih => simp only [AtomicCounter.exec]; rw [ih, AtomicCounter.step_total]

theorem sumAll_done {ps : List (List Int)} (h : ∀ p ∈ ps, p = []) : sumAll ps = 0 := by
  induction ps with
  | nil => rfl
  | cons p ps ih =>
    obtain ⟨rfl, h'⟩ := List.forall_mem_cons.mp h
    exact (Int.zero_add _).trans (ih h')

theorem sumAll_ones {ps : List (List Int)} (h : ∀ p ∈ ps, ∀ d ∈ p, d = 1) :
    sumAll ps = ((ps.map List.length).sum : Nat) := by
  induction ps with
  | nil => rfl
  | cons p ps ih =>
    obtain ⟨hp, h'⟩ := List.forall_mem_cons.mp h
    show p.sum + sumAll ps = ((p.length + (ps.map List.length).sum : Nat) : Int)
    rw [ih h', List.eq_replicate_iff.mpr ⟨rfl, hp⟩, List.sum_replicate_int, List.length_replicate, Int.mul_one,
      Int.natCast_add]

theorem readAlone_length {δ α : Type} (chunk : δ → Nat → α) (db : δ) (k : Nat) :
    (readAlone chunk db k).length = k := by
  induction k with
  | zero => rfl
  | succ k ih => simp [readAlone, ih]

/-- If no other operation writes the database, every reader always holds what it would hold after the same
    number of its own steps run alone.  (`n t` counts the steps of reader `t` so far.) -/
theorem rexec_alone {δ α ω : Type} (chunk : δ → Nat → α) (wr : ω → δ → δ) (hwr : ∀ w d, wr w d = d)
    (db0 : δ) (s : RState δ α) (n : Nat → Nat) (hdb : s.db = db0) (hs : ∀ t, s.got t = readAlone chunk db0 (n t))
    (sch : List (RAct ω)) :
    (rexec chunk wr s sch).db = db0 ∧
    ∀ t, (rexec chunk wr s sch).got t = readAlone chunk db0 (n t + countReads t sch) := by
  induction sch generalizing s n with
  | nil => exact ⟨hdb, hs⟩
  | cons a as ih =>
    cases a with
    | other w => exact ih (rstep chunk wr s (.other w)) n ((hwr w s.db).trans hdb) hs
    | read u =>
      -- reader `u` appends chunk number `n u`, read from `db0`
      have := ih (rstep chunk wr s (.read u)) (fun t => n t + if u = t then 1 else 0) hdb (fun t => by
        show (if t = u then _ else _) = _
        by_cases hu : t = u
        · subst hu; simp only [↓reduceIte, readAlone]; rw [hs t, readAlone_length, hdb]
        · simp only [hu, Ne.symm hu, ↓reduceIte]; exact hs t)
      refine ⟨this.1, fun t => ?_⟩
      rw [rexec, this.2 t, countReads, Nat.add_assoc]

end Wtf.Conc
