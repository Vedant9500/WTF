import WtfModel.Model.Boosts
import WtfModel.Proofs.C01Score
/-
  The modelled per-document NLP factors satisfy what C01 / C13 assume about them (core Lean only):

    for every analysis, document and rune table   intentBoost > 0    (calculateIntentBoost: a product of positive literals)
                                                  cascadeBoost ≥ 1   (calculateBoostForCommand: 1 + non-negative terms)

  hence `(Boosts.nlpOut ri db nq).FactorsNonneg` for every database and query.

  The literals are data regenerated from the source, so the statements are proved for every `Spec` that passes the
  decidable check `Spec.WF` (every multiplicative literal > 0, the initial cascade value ≥ 1, every additive literal ≥ 0),
  and `genSpec_wf` evaluates that check on the current `Gen/Boosts.lean` - a source edit that makes a factor zero or
  negative makes `genSpec_wf` fail to compile, nothing else.
-/
namespace Wtf.Boosts
open ScoreOps ScoreLaws Boost
open Nlp (Analysis)

def qPos (q : Q) : Bool := decide (0 < q.num) && decide (0 < q.den)
def qNonneg (q : Q) : Bool := decide (0 ≤ q.num) && decide (0 < q.den)
def qGeOne (q : Q) : Bool := decide ((q.den : Int) ≤ q.num) && decide (0 < q.den)

def factorsPos : Stmt → Bool
  | .skip => true
  | .retBoost => true
  | .ret q => qPos q
  | .set q => qPos q
  | .mul q => qPos q
  | .ite _ t e => factorsPos t && factorsPos e
  | .loop _ b => factorsPos b
  | .seq a b => factorsPos a && factorsPos b

def termWF : CTerm → Bool
  | .hint q => qNonneg q
  | .term _ q => qNonneg q
  | .context q => qNonneg q
  | .intent => true

def Spec.WF (sp : Spec) : Bool :=
  qPos sp.intentInit && sp.intentSwitch.all (fun p => factorsPos p.2) && qPos sp.intentDefault &&
  factorsPos sp.actionBoosts && factorsPos sp.targetBoosts &&
  qGeOne sp.cascadeInit && sp.cascadeTerms.all termWF &&
  qNonneg sp.hintMiss && qNonneg sp.termMiss && qNonneg sp.contextMiss &&
  qNonneg sp.intentNoEntry && qNonneg sp.intentHit && qNonneg sp.intentMiss

theorem genSpec_wf : genSpec.WF = true := by decide

variable {S : Type} [ScoreOps S] [ScoreLaws S]

theorem ofQ_pos' {q : Q} (h : qPos q = true) : Pos (ofQ q : S) := by
  simp only [qPos, Bool.and_eq_true, decide_eq_true_eq] at h
  exact ofQ_pos q h.1 h.2

theorem ofQ_nonneg' {q : Q} (h : qNonneg q = true) : Nonneg (ofQ q : S) := by
  simp only [qNonneg, Bool.and_eq_true, decide_eq_true_eq] at h
  exact ofQ_nonneg q h.1 h.2

theorem ofQ_ge_one' {q : Q} (h : qGeOne q = true) : ge (ofQ q : S) one := by
  simp only [qGeOne, Bool.and_eq_true, decide_eq_true_eq] at h
  exact ofQ_ge_one q h.1 h.2

omit [ScoreLaws S] in
theorem iter_pos (body : Bytes → S → Out S) (hb : ∀ a b, Pos b → Pos (body a b).val) :
    ∀ (l : List Bytes) (b : S), Pos b → Pos (iter body l b).val
  | [], _, h => h
  | a :: rest, b, h => by
    have h1 := hb a b h
    rw [iter]
    split
    · rename_i b' hr
      exact iter_pos body hb rest b' (hr ▸ h1 : Pos (Out.cont b').val)
    · rename_i v hr
      exact hr ▸ h1

theorem exec_pos (e : Env) : ∀ (st : Stmt) (v : Bytes) (b : S), factorsPos st = true → Pos b → Pos (exec e st v b).val := by
  intro st
  induction st with
  | skip => intro v b _ hb; exact hb
  | ret q => intro v b h _; exact ofQ_pos' h
  | retBoost => intro v b _ hb; exact hb
  | set q => intro v b h _; exact ofQ_pos' h
  | mul q => intro v b h hb; exact mul_pos _ _ hb (ofQ_pos' h)
  | ite c t f iht ihf =>
    intro v b h hb
    simp only [factorsPos, Bool.and_eq_true] at h
    unfold exec
    split
    · exact iht v b h.1 hb
    · exact ihf v b h.2 hb
  | loop src body ih =>
    intro v b h hb
    exact iter_pos _ (fun a b' hb' => ih a b' h hb') _ b hb
  | seq a c iha ihc =>
    intro v b h hb
    simp only [factorsPos, Bool.and_eq_true] at h
    have h1 := iha v b h.1 hb
    unfold exec
    split
    · rename_i b' hr
      exact ihc v b' h.2 (hr ▸ h1 : Pos (Out.cont b').val)
    · rename_i r hr
      exact hr ▸ h1

theorem runFn_pos (e : Env) (st : Stmt) (h : factorsPos st = true) : Pos (runFn e st : S) :=
  exec_pos e st [] one h one_pos

theorem applyIntent_pos (sp : Spec) (hsw : sp.intentSwitch.all (fun p => factorsPos p.2) = true) (hd : qPos sp.intentDefault = true)
    (e : Env) (intent : Bytes) : Pos (applyIntent sp e intent : S) := by
  unfold applyIntent
  split
  · rename_i p hp
    have hm := List.mem_of_find?_eq_some hp
    exact runFn_pos e p.2 (List.all_eq_true.mp hsw p hm)
  · exact ofQ_pos' hd

theorem intentBoostWith_pos (sp : Spec) (h : sp.WF = true) (ri : RuneInfo) (c : Cmd) (a : Analysis) :
    Pos (intentBoostWith sp ri c a : S) := by
  simp only [Spec.WF, Bool.and_eq_true] at h
  obtain ⟨⟨⟨⟨⟨⟨⟨⟨⟨⟨⟨⟨h1, h2⟩, h3⟩, h4⟩, h5⟩, _⟩, _⟩, _⟩, _⟩, _⟩, _⟩, _⟩, _⟩ := h
  unfold intentBoostWith
  exact mul_pos _ _ (mul_pos _ _ (mul_pos _ _ (ofQ_pos' h1) (applyIntent_pos sp h2 h3 _ _)) (runFn_pos _ _ h4)) (runFn_pos _ _ h5)

theorem evalTerm_nonneg (sp : Spec) (hh : qNonneg sp.hintMiss = true) (ht : qNonneg sp.termMiss = true)
    (hc : qNonneg sp.contextMiss = true) (hn : qNonneg sp.intentNoEntry = true) (hi : qNonneg sp.intentHit = true)
    (hm : qNonneg sp.intentMiss = true) (ri : RuneInfo) (c : Cmd) (text : Bytes) (x : Ctx) (t : CTerm) (hw : termWF t = true) :
    Nonneg (evalTerm sp ri c text x t : S) := by
  cases t with
  | hint q => simp only [evalTerm, calcHint]; exact ite_nonneg (ofQ_nonneg' hw) (ofQ_nonneg' hh)
  | term l q => simp only [evalTerm, calcTerm]; exact ite_nonneg (ofQ_nonneg' hw) (ofQ_nonneg' ht)
  | context q => simp only [evalTerm, calcContext]; exact ite_nonneg (ofQ_nonneg' hw) (ofQ_nonneg' hc)
  | intent =>
    simp only [evalTerm, getIntent]
    split
    · exact ofQ_nonneg' hn
    · exact ite_nonneg (ofQ_nonneg' hi) (ofQ_nonneg' hm)

theorem foldl_add_ge_one (f : CTerm → S) : ∀ (ts : List CTerm) (b : S), (∀ t ∈ ts, Nonneg (f t)) → ge b one →
    ge (ts.foldl (fun b t => add b (f t)) b) one :=
  fun ts _ hf hb => List.foldlRecOn (motive := (ge · one)) ts _ hb fun b hb t ht =>
    le_trans _ _ _ (le_add_of_nonneg_right b (f t) (hf t ht)) hb

theorem cascadeBoostWith_ge_one (sp : Spec) (h : sp.WF = true) (ri : RuneInfo) (c : Cmd) (x : Ctx) :
    ge (cascadeBoostWith sp ri c x : S) one := by
  simp only [Spec.WF, Bool.and_eq_true] at h
  obtain ⟨⟨⟨⟨⟨⟨⟨⟨⟨⟨⟨⟨_, _⟩, _⟩, _⟩, _⟩, h6⟩, h7⟩, h8⟩, h9⟩, h10⟩, h11⟩, h12⟩, h13⟩ := h
  unfold cascadeBoostWith
  apply foldl_add_ge_one
  · intro t ht
    exact evalTerm_nonneg sp h8 h9 h10 h11 h12 h13 ri c _ x t (List.all_eq_true.mp h7 t ht)
  · exact ofQ_ge_one' h6

theorem nlpOutWith_factors (sp : Spec) (h : sp.WF = true) (ri : RuneInfo) (db : Db) (nq : Bytes) (d : Nat) :
    Pos ((nlpOutWith (S := S) sp ri db nq).intentBoost d) ∧ ge ((nlpOutWith (S := S) sp ri db nq).cascade d) one := by
  unfold nlpOutWith
  constructor
  · show Pos (match db[d]? with | some c => intentBoostWith sp ri c _ | none => one)
    split
    · exact intentBoostWith_pos sp h ri _ _
    · exact one_pos
  · show ge (match db[d]? with | some c => cascadeBoostWith sp ri c _ | none => one) one
    split
    · exact cascadeBoostWith_ge_one sp h ri _ _
    · exact lt_irrefl _

theorem intentBoost_pos (ri : RuneInfo) (c : Cmd) (a : Analysis) : Pos (intentBoost ri c a : S) :=
  intentBoostWith_pos genSpec genSpec_wf ri c a

theorem cascadeBoost_ge_one (ri : RuneInfo) (c : Cmd) (a : Analysis) (enhanced : List Bytes) :
    ge (cascadeBoost ri c a enhanced : S) one :=
  cascadeBoostWith_ge_one genSpec genSpec_wf ri c _

/-- **the hypothesis C01 / C13 make about the NLP factors holds for the modelled NLP layer** -/
theorem nlpOut_factorsNonneg (ri : RuneInfo) (db : Db) (nq : Bytes) : (nlpOut (S := S) ri db nq).FactorsNonneg :=
  fun d => let h := nlpOutWith_factors genSpec genSpec_wf ri db nq d; ⟨pos_nonneg h.1, nonneg_of_ge_one h.2⟩

end Wtf.Boosts
