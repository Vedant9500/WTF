import WtfModel.Proofs.C01Search
import WtfModel.Proofs.ScoreField
import Mathlib.Analysis.SpecialFunctions.Log.Basic
/-
  C01: the idf hypothesis (`IdfNonneg`) holds for the formula in `bm25IDF`
      math.Log((N - df + 0.5)/(df + 0.5) + 1)
  read over ℝ, whenever `df ≤ N` — which is the only region the index ever asks for (`dfLeN_build`).
-/
namespace Wtf.Search

noncomputable def realIdf (n df : Nat) : ℝ := Real.log (((n : ℝ) - (df : ℝ) + 1 / 2) / ((df : ℝ) + 1 / 2) + 1)

/-- `math.Log` of a number > 1: strictly positive for `df ≤ N` (so a matching term always contributes) -/
theorem bm25_idf_real_pos (n df : Nat) (h : df ≤ n) : 0 < realIdf n df := by
  unfold realIdf
  apply Real.log_pos
  have h1 : (0 : ℝ) ≤ (n : ℝ) - (df : ℝ) := sub_nonneg.mpr (Nat.cast_le.mpr h)
  -- 1 < quotient + 1: both sums of the quotient are positive
  exact lt_add_of_pos_left 1 (div_pos (add_pos_of_nonneg_of_pos h1 (by norm_num))
    (add_pos_of_nonneg_of_pos (Nat.cast_nonneg df) (by norm_num)))

theorem bm25_idf_real_nonneg (n df : Nat) (h : df ≤ n) : 0 ≤ realIdf n df := le_of_lt (bm25_idf_real_pos n df h)

/-- outside that region the formula *can* be negative (why the hypothesis is restricted to `df ≤ N`) -/
theorem bm25_idf_real_neg_outside : realIdf 0 2 < 0 := by
  unfold realIdf
  apply Real.log_neg
  · norm_num
  · norm_num

theorem idfNonneg_of_nonneg (f : Nat → Nat → ℝ) (hf : ∀ n df, df ≤ n → 0 ≤ f n df) (T : @Tuning ℝ) (h : T.idf = f) :
    @IdfNonneg ℝ (fieldScoreOps ℝ) T := by
  intro n df hle
  rw [h]
  exact decide_eq_false (not_lt.mpr (hf n df hle))

theorem idfNonneg_real (T : @Tuning ℝ) (h : T.idf = realIdf) : @IdfNonneg ℝ (fieldScoreOps ℝ) T :=
  idfNonneg_of_nonneg _ bm25_idf_real_nonneg T h

end Wtf.Search
