import WtfModel.Model.Nlp
/-
  Lemmas about the NLP analysis model (Model/Nlp.lean) for C06: removeDuplicates, the shape of the expanded
  keyword list, where keywords come from.  Everything holds for every `Tables` value and every hint function.
-/
namespace Wtf.Nlp

theorem mem_dedupAux {l seen : List Bytes} {x : Bytes} : x ∈ dedupAux l seen ↔ x ∈ l ∧ x ∉ seen := by
  induction l generalizing seen with
  | nil => simp [dedupAux]
  | cons a rest ih =>
    by_cases ha : a ∈ seen
    · -- a repeated element is skipped; `x` is not it, since `x` is not in `seen`
      rw [dedupAux, if_pos (by simpa using ha), ih, List.mem_cons]
      exact and_congr_left fun hx => (or_iff_right fun (e : x = a) => hx (e ▸ ha)).symm
    · rw [dedupAux, if_neg (by simpa using ha), List.mem_cons, ih, List.mem_cons, List.mem_cons]
      by_cases e : x = a
      · simp [e, ha]
      · simp [e]

theorem mem_dedup {l : List Bytes} {x : Bytes} : x ∈ dedup l ↔ x ∈ l := by
  simp [dedup, mem_dedupAux]

theorem nodup_dedupAux (l seen : List Bytes) : (dedupAux l seen).Nodup := by
  induction l generalizing seen with
  | nil => simp [dedupAux]
  | cons a rest ih =>
    simp only [dedupAux]
    split
    · exact ih seen
    · exact List.nodup_cons.mpr ⟨fun h => (mem_dedupAux.mp h).2 List.mem_cons_self, ih _⟩

theorem nodup_dedup (l : List Bytes) : (dedup l).Nodup := nodup_dedupAux l []

theorem dedupAux_sublist (l seen : List Bytes) : (dedupAux l seen).Sublist l := by
  induction l generalizing seen with
  | nil => simp [dedupAux]
  | cons a rest ih =>
    simp only [dedupAux]
    split
    · exact (ih seen).cons a
    · exact (ih _).cons_cons a

theorem dedup_sublist (l : List Bytes) : (dedup l).Sublist l := dedupAux_sublist l []

theorem dedup_of_nodup {l : List Bytes} (hn : l.Nodup) : dedup l = l :=
  -- a sub-list of `l` that contains every element of the duplicate-free `l`
  (dedup_sublist l).eq_of_length_le (hn.length_le_of_subset fun _ hx => mem_dedup.mpr hx)

theorem dedupAux_append_prefix (a b seen : List Bytes) : dedupAux a seen <+: dedupAux (a ++ b) seen := by
  induction a generalizing seen with
  | nil => exact List.nil_prefix
  | cons x rest ih =>
    simp only [List.cons_append, dedupAux]
    split
    · exact ih seen
    · exact List.prefix_cons_inj x |>.mpr (ih _)

theorem dedup_append_prefix (a b : List Bytes) : dedup a <+: dedup (a ++ b) := dedupAux_append_prefix a b []

theorem prefix_ite_append {α : Type} (c : Prop) [Decidable c] (x y : List α) : x <+: (if c then x ++ y else x) := by
  by_cases h : c
  · rw [if_pos h]; exact List.prefix_append x y
  · rw [if_neg h]; exact List.prefix_refl x

/-- GetEnhancedKeywords only ever appends to the keyword list: hints, the ipconfig hint, actions and targets, intent words -/
theorem keywords_prefix_enhancedRaw (Tb : Tables) (hints : Analysis → List Bytes) (a : Analysis) :
    a.keywords <+: enhancedRaw Tb hints a := by
  unfold enhancedRaw
  exact ((List.prefix_append _ _).trans (prefix_ite_append _ _ _)).trans
    (((List.prefix_append _ _).trans (List.prefix_append _ _)).trans (prefix_ite_append _ _ _))

theorem keywords_prefix_enhanced (Tb : Tables) (hints : Analysis → List Bytes) (a : Analysis)
    (hn : a.keywords.Nodup) : a.keywords <+: enhancedKeywords Tb hints a := by
  obtain ⟨r, hr⟩ := keywords_prefix_enhancedRaw Tb hints a
  unfold enhancedKeywords
  rw [← hr]
  -- a duplicate-free list is its own de-duplication, and de-duplicating `a ++ r` starts with that of `a`
  have := dedup_append_prefix a.keywords r
  rwa [dedup_of_nodup hn] at this

theorem processQuery_keywords (Tb : Tables) (ri : RuneInfo) (q : Bytes) :
    (processQuery Tb ri q).keywords = dedup (rawKeywords Tb q) := by
  rw [processQuery]  -- opening the definition once is far cheaper than `rfl` through it

/-- the keep-or-skip test of the ProcessQuery loop in one condition -/
theorem wordKeywords_eq (Tb : Tables) (w : Bytes) :
    wordKeywords Tb w =
      if !isStop Tb w && (assoc Tb.actions w).isNone then
        w :: (if (assoc Tb.targets w).isSome then [] else firstSynonym Tb w)
      else [] := by
  unfold wordKeywords
  cases isStop Tb w <;> cases assoc Tb.actions w <;> cases assoc Tb.targets w <;> rfl

theorem mem_firstSynonym {Tb : Tables} {w k : Bytes} :
    k ∈ firstSynonym Tb w ↔ ∃ rest, assoc Tb.synonyms w = some (k :: rest) := by
  unfold firstSynonym
  split
  · rename_i s rest hsyn
    rw [hsyn, List.mem_singleton]
    exact ⟨fun e => ⟨rest, by rw [e]⟩, fun ⟨_, e⟩ => (List.cons.inj (Option.some.inj e)).1.symm⟩
  · rename_i hno
    exact ⟨(nomatch ·), fun ⟨rest, e⟩ => (hno k rest e).elim⟩

theorem mem_wordKeywords {Tb : Tables} {w k : Bytes} :
    k ∈ wordKeywords Tb w ↔ isStop Tb w = false ∧ assoc Tb.actions w = none ∧
      (k = w ∨ (assoc Tb.targets w = none ∧ ∃ rest, assoc Tb.synonyms w = some (k :: rest))) := by
  simp only [wordKeywords_eq, List.mem_ite_nil_right, List.mem_cons, List.mem_ite_nil_left, mem_firstSynonym,
    Bool.and_eq_true, Bool.not_eq_true', Option.isNone_iff_eq_none, Bool.not_eq_true, Option.isSome_eq_false_iff, and_assoc]

/-- the content words of the query that the loop keeps as keywords: not a stop word, not an action word -/
def userKeywordWords (Tb : Tables) (q : Bytes) : List Bytes :=
  (words q).filter (fun w => !isStop Tb w && (assoc Tb.actions w).isNone)

theorem flatMap_eq_filter {α : Type} (f : α → List α) (p : α → Bool) (l : List α)
    (h : ∀ w ∈ l, f w = if p w then [w] else []) : l.flatMap f = l.filter p := by
  induction l with
  | nil => rfl
  | cons a rest ih =>
    have ha := h a (List.mem_cons_self ..)
    have ih' := ih (fun w hw => h w (List.mem_cons_of_mem _ hw))
    simp only [List.flatMap_cons, ha, ih', List.filter_cons]
    split <;> simp

end Wtf.Nlp
