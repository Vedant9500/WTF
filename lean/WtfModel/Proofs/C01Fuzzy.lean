import WtfModel.Model.Search
import WtfModel.Proofs.ScoreLaws
/-
  C01, typo-fallback branch (performFuzzySearch + limitResults): the score normalisation is monotone and lands in
  [0,1]; what is asked of the library's sort.  Core Lean only.
-/
namespace Wtf.Search
open ScoreOps ScoreLaws

variable {S : Type} [ScoreOps S]

section norm
variable [ScoreLaws S]

/-- `clamp01 v = min 1 (max 0 v)` as the code writes it -/
def clamp01 (v : S) : S := if lt v zero then zero else if lt one v then one else v

theorem clamp01_nonneg (v : S) : Nonneg (clamp01 v) := by
  unfold clamp01
  split
  · exact zero_nonneg
  · split
    · exact one_nonneg
    · rename_i h _; simpa using h

theorem clamp01_le_one (v : S) : lt (one : S) (clamp01 v) = false := by
  unfold clamp01
  split
  · exact one_nonneg
  · split
    · exact lt_irrefl _
    · rename_i h; simpa using h

theorem clamp01_mono {v1 v2 : S} (h : lt v2 v1 = false) : lt (clamp01 v2) (clamp01 v1) = false := by
  by_cases h1 : lt v1 zero = true
  · -- clamp v1 = 0 ≤ clamp v2
    rw [show clamp01 v1 = zero from if_pos h1]; exact clamp01_nonneg v2
  · have h1' : lt v1 zero = false := by simpa using h1
    have h2 : lt v2 zero = false := nonneg_of_ge h h1'
    rw [clamp01, clamp01, if_neg h1, if_neg (by simp [h2])]
    by_cases h1o : lt one v1 = true
    · -- both are cut at 1
      rw [if_pos h1o, if_pos (lt_of_lt_of_ge h1o h)]; exact lt_irrefl _
    · rw [if_neg h1o]
      split
      · simpa using h1o
      · exact h

/-- the signed conversion `float64(int)` -/
def ofInt (x : Int) : S := if x < 0 then sub zero (ofNat (-x).toNat) else ofNat x.toNat

theorem ofInt_mono {x1 x2 : Int} (h : x1 ≤ x2) : lt (ofInt x2 : S) (ofInt x1) = false := by
  unfold ofInt
  by_cases h2 : x2 < 0
  · have h1 : x1 < 0 := by omega
    simp only [h1, h2, ↓reduceIte]
    apply sub_le_sub_left
    apply ofNat_mono
    omega
  · by_cases h1 : x1 < 0
    · simp only [h1, h2, ↓reduceIte]
      -- a negative number is below a non-negative one
      exact le_trans _ _ _ (ofNat_nonneg _) (lt_asymm _ _ (sub_zero_neg _ (ofNat_pos _ (by omega))))
    · simp only [h1, h2, ↓reduceIte]
      apply ofNat_mono
      omega

omit [ScoreLaws S] in
theorem normalizeFuzzy_eq (sc : Int) :
    (normalizeFuzzy sc : S) = clamp01 (div (ofInt (sc + fuzzyBase)) (ofNat fuzzyBase.toNat)) := by
  unfold normalizeFuzzy clamp01 ofInt
  rfl

theorem normalizeFuzzy_nonneg (sc : Int) : Nonneg (normalizeFuzzy sc : S) := by
  rw [normalizeFuzzy_eq]; exact clamp01_nonneg _

theorem normalizeFuzzy_le_one (sc : Int) : lt (one : S) (normalizeFuzzy sc) = false := by
  rw [normalizeFuzzy_eq]; exact clamp01_le_one _

theorem normalizeFuzzy_mono {a b : Int} (h : a ≥ b) : lt (normalizeFuzzy a : S) (normalizeFuzzy b) = false := by
  rw [normalizeFuzzy_eq, normalizeFuzzy_eq]
  apply clamp01_mono
  apply div_le_div_right
  · exact ofInt_mono (by omega)
  · exact ofNat_pos _ (by decide)

end norm

/-- the library's final sort (`sort.Stable` with `Less = Score >=`): a permutation, best score first.  That `Less` is not
    a strict order, so the documented contract of `sort.Stable` does not give this: it is proved for the modelled algorithm
    (`fuzzySortOK_of_goStable`, Props/C01c.lean), and checked on every generated case: the driver accepts Go's order only
    if it is a score-sorted permutation of the model's own matches. -/
def FuzzySortOK (T : Tuning S) : Prop :=
  ∀ ms, (T.fuzzySort ms).Perm ms ∧ (T.fuzzySort ms).Pairwise (fun a b => a.2 ≥ b.2)

/-- a stable merge sort by descending library score is such a sort (the examples' stand-in for the library's) -/
theorem fuzzySortOK_mergeSort (ms : List (Nat × Int)) :
    (ms.mergeSort (fun a b => decide (a.2 ≥ b.2))).Perm ms ∧
    (ms.mergeSort (fun a b => decide (a.2 ≥ b.2))).Pairwise (fun a b => a.2 ≥ b.2) := by
  refine ⟨List.mergeSort_perm _ _, ?_⟩
  have := List.pairwise_mergeSort (le := fun (a b : Nat × Int) => decide (a.2 ≥ b.2))
    (by intro a b c h1 h2; simp only [decide_eq_true_eq] at *; omega)
    (by intro a b; simp only [Bool.or_eq_true, decide_eq_true_eq]; omega) ms
  exact this.imp (by intro a b h; simpa using h)

end Wtf.Search
