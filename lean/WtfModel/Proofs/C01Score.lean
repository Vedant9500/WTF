import WtfModel.Proofs.SearchBasic
/-
  C01, non-negativity of scores on the lexical path: BM25F terms are non-negative for sane
  parameters, the score map only accumulates non-negative contributions, and every later stage
  multiplies by a non-negative factor or adds a non-negative term — so it keeps a ranked list ranked.
  Core Lean only.
-/
namespace Wtf.Search
open Text Index ScoreOps ScoreLaws

variable {S : Type} [ScoreOps S] [ScoreLaws S]
variable (T : Tuning S) (db : Db) (o : Opts S)

theorem lt_of_ge_of_lt {a b c : S} (h1 : lt a b = false) (h2 : lt c b = true) : lt c a = true :=
  lt_of_lt_of_ge h2 h1

/-- Sanity of the BM25F parameters: `k1 > 0`, field weights `> 0`, length-normalisation strengths in
    `[0,1]`.  Discharged for the parameters in the source by `genParams_wf` below (a `decide` over the
    regenerated rationals `Gen.Bm25.*`): a re-tuned but sane parameter set still passes, a negative
    weight or `b > 1` breaks the proof. -/
structure ParamsWF (P : Params S) : Prop where
  k1_pos : Pos P.k1
  wCmd_pos : Pos P.wCmd
  wDesc_pos : Pos P.wDesc
  wKeys_pos : Pos P.wKeys
  wTags_pos : Pos P.wTags
  bCmd_nonneg : Nonneg P.bCmd
  bDesc_nonneg : Nonneg P.bDesc
  bKeys_nonneg : Nonneg P.bKeys
  bTags_nonneg : Nonneg P.bTags
  bCmd_le_one : lt (one : S) P.bCmd = false
  bDesc_le_one : lt (one : S) P.bDesc = false
  bKeys_le_one : lt (one : S) P.bKeys = false
  bTags_le_one : lt (one : S) P.bTags = false

/-- the parameters written in `defaultParams()` (regenerated on every run) are sane -/
theorem genParams_wf : ParamsWF (genParams : Params S) where
  k1_pos := ofQ_pos _ (by decide) (by decide)
  wCmd_pos := ofQ_pos _ (by decide) (by decide)
  wDesc_pos := ofQ_pos _ (by decide) (by decide)
  wKeys_pos := ofQ_pos _ (by decide) (by decide)
  wTags_pos := ofQ_pos _ (by decide) (by decide)
  bCmd_nonneg := ofQ_nonneg _ (by decide) (by decide)
  bDesc_nonneg := ofQ_nonneg _ (by decide) (by decide)
  bKeys_nonneg := ofQ_nonneg _ (by decide) (by decide)
  bTags_nonneg := ofQ_nonneg _ (by decide) (by decide)
  bCmd_le_one := ofQ_le_one _ (by decide) (by decide)
  bDesc_le_one := ofQ_le_one _ (by decide) (by decide)
  bKeys_le_one := ofQ_le_one _ (by decide) (by decide)
  bTags_le_one := ofQ_le_one _ (by decide) (by decide)

theorem fieldBM25_nonneg' {k1 w b : S} (hk : Nonneg k1) (hw : Pos w) (hb0 : Nonneg b) (hb1 : lt (one : S) b = false)
    (tf dl : Nat) (htf : 0 < tf) (avgdl : S) :
    Nonneg (fieldBM25 k1 (ofNat tf) (ofNat dl) avgdl w b) := by
  unfold fieldBM25
  simp only []
  have havg : Pos (if le avgdl zero then one else avgdl : S) := by
    unfold ScoreOps.le
    cases h : lt (zero : S) avgdl with
    | true => simpa using h
    | false => simpa using one_pos
  generalize (if le avgdl zero then one else avgdl : S) = avg at havg
  have hnorm : Nonneg (add (sub one b) (mul b (div (ofNat dl) avg))) :=
    add_nonneg _ _ (sub_nonneg _ _ hb1) (mul_nonneg _ _ hb0 (div_nonneg _ _ (ofNat_nonneg dl) havg))
  have htfw : Pos (mul w (ofNat tf : S)) := mul_pos _ _ hw (ofNat_pos tf htf)
  apply div_nonneg
  · exact mul_nonneg _ _ (pos_nonneg htfw) (add_nonneg _ _ hk one_nonneg)
  · exact add_pos_of_pos_nonneg _ _ htfw (mul_nonneg _ _ hk hnorm)

theorem fieldBM25_nonneg {k1 w b : S} (hk : Pos k1) (hw : Pos w) (hb0 : Nonneg b) (hb1 : lt (one : S) b = false)
    (tf dl : Nat) (htf : 0 < tf) (avgdl : S) :
    Nonneg (fieldBM25 k1 (ofNat tf) (ofNat dl) avgdl w b) :=
  fieldBM25_nonneg' (pos_nonneg hk) hw hb0 hb1 tf dl htf avgdl

def FieldSane (w b : S) : Prop := Pos w ∧ Nonneg b ∧ lt (one : S) b = false

theorem termBM25F_nonneg_of {P : Params S} (hk : Nonneg P.k1) (hc : FieldSane P.wCmd P.bCmd)
    (hd : FieldSane P.wDesc P.bDesc) (hkw : FieldSane P.wKeys P.bKeys) (ht : FieldSane P.wTags P.bTags)
    (n : Nat) (tot dl : DocLens) (tf : FieldTF) : Nonneg (termBM25F P n tot dl tf) := by
  unfold termBM25F
  simp only []
  have step : ∀ (s x : S) (c : Prop) [Decidable c], Nonneg s → (c → Nonneg x) → Nonneg (if c then add s x else s) := by
    intro s x c _ hs hx
    split
    · rename_i hc; exact add_nonneg _ _ hs (hx hc)
    · exact hs
  apply step
  · apply step
    · apply step
      · apply step
        · exact zero_nonneg
        · intro h; exact fieldBM25_nonneg' hk hc.1 hc.2.1 hc.2.2 _ _ h _
      · intro h; exact fieldBM25_nonneg' hk hd.1 hd.2.1 hd.2.2 _ _ h _
    · intro h; exact fieldBM25_nonneg' hk hkw.1 hkw.2.1 hkw.2.2 _ _ h _
  · intro h; exact fieldBM25_nonneg' hk ht.1 ht.2.1 ht.2.2 _ _ h _

theorem termBM25F_nonneg {P : Params S} (hP : ParamsWF P) (n : Nat) (tot dl : DocLens) (tf : FieldTF) :
    Nonneg (termBM25F P n tot dl tf) :=
  termBM25F_nonneg_of (pos_nonneg hP.k1_pos) ⟨hP.wCmd_pos, hP.bCmd_nonneg, hP.bCmd_le_one⟩
    ⟨hP.wDesc_pos, hP.bDesc_nonneg, hP.bDesc_le_one⟩ ⟨hP.wKeys_pos, hP.bKeys_nonneg, hP.bKeys_le_one⟩
    ⟨hP.wTags_pos, hP.bTags_nonneg, hP.bTags_le_one⟩ n tot dl tf

def AllNonneg (m : List (Nat × S)) : Prop := ∀ x ∈ m, Nonneg x.2

omit [ScoreLaws S] in
theorem allNonneg_nil : AllNonneg ([] : List (Nat × S)) := by intro x hx; cases hx

theorem allNonneg_addScore {m : List (Nat × S)} (h : AllNonneg m) (d : Nat) {x : S} (hx : Nonneg x) :
    AllNonneg (addScore m d x) := by
  induction m with
  | nil => exact List.forall_mem_cons.mpr ⟨add_nonneg _ _ zero_nonneg hx, h⟩
  | cons a rest ih =>
    obtain ⟨d', s⟩ := a
    obtain ⟨hs, hrest⟩ := List.forall_mem_cons.mp h
    rw [addScore]
    split
    · exact List.forall_mem_cons.mpr ⟨add_nonneg _ _ hs hx, hrest⟩
    · split
      · exact List.forall_mem_cons.mpr ⟨add_nonneg _ _ zero_nonneg hx, h⟩
      · exact List.forall_mem_cons.mpr ⟨hs, ih hrest⟩

theorem boostOf_pos (tb : List (Bytes × S)) (t : Token) : Pos (boostOf tb t) := by
  unfold boostOf
  split
  · split
    · rename_i h; exact h
    · exact one_pos
  · exact one_pos

/-- idf is only ever asked for a document frequency that does not exceed the collection size -/
def DfLeN (idx : Index) : Prop := ∀ t k, look idx.df t = some k → k ≤ idx.n

theorem initialScores_nonneg (hP : ParamsWF T.params)
    (db : Db) (idx : Index) (hidx : DfLeN idx) (hidf : ∀ df, df ≤ idx.n → Nonneg (T.idf idx.n df))
    (o : Opts S) (pq : Option (NlpOut S)) (terms : List Token) :
    AllNonneg (initialScores T db idx o pq terms) := by
  rw [initialScores_eq_hits]
  refine List.foldlRecOn _ _ allNonneg_nil fun m hm h _ => allNonneg_addScore hm _ ?_
  refine mul_nonneg _ _ (mul_nonneg _ _ (hidf _ ?_) (pos_nonneg (boostOf_pos _ _))) (termBM25F_nonneg hP _ _ _ _)
  -- idf is only asked at a document frequency of the index (`0` for a term without one)
  cases hl : look idx.df h.1 with
  | none => simp
  | some k => simpa using hidx _ k hl

/-- per-document NLP factors (`calculateIntentBoost`, `calculateBoostForCommand`) are non-negative -/
def NlpOut.FactorsNonneg (n : NlpOut S) : Prop := ∀ d, Nonneg (n.intentBoost d) ∧ Nonneg (n.cascade d)

theorem collectScore_nonneg {pq : Option (NlpOut S)} (hpq : ∀ n, pq = some n → n.FactorsNonneg)
    (d : Nat) (c : Cmd) {s : S} (hs : Nonneg s) : Nonneg (collectScore T o pq d c s) := by
  unfold collectScore
  extract_lets docText s1
  have h1 : Nonneg s1 := by
    unfold s1
    split
    · exact hs
    · rename_i n
      have hn := mul_nonneg _ _ hs (hpq n rfl d).1
      exact ite_nonneg (mul_nonneg _ _ hn (ofQ_nonneg _ (by decide) (by decide))) hn
  split
  · rename_i hb
    exact mul_nonneg _ _ h1 (pos_nonneg (Bool.and_eq_true _ _ ▸ hb).2)
  · exact h1

variable {T db o}

theorem cand_collect {pq : Option (NlpOut S)}
    (hpq : ∀ n, pq = some n → n.FactorsNonneg) {m : List (Nat × S)} (hinv : ScoresInv T db o m) (hnn : AllNonneg m) :
    Cand db.length (collect T db o pq m) := by
  have hids := collect_ids pq hinv
  refine ⟨by rw [hids]; exact keysSorted_nodup hinv.1, fun x hx => ?_, fun ⟨d, s⟩ hx => ?_⟩
  · have : x.1 ∈ (collect T db o pq m).map (·.1) := List.mem_map_of_mem hx
    rw [hids] at this
    exact eligible_lt (hinv.2 _ this)
  · obtain ⟨s0, c, hm, _, rfl⟩ := mem_collect.mp hx
    exact collectScore_nonneg T o hpq d c (hnn _ hm)

def TfidfNonneg (T : Tuning S) : Prop := ∀ rank, T.tfidf = some rank → ∀ q, ∀ x ∈ rank q, Nonneg x.2

theorem blend_nonneg {sims : List (Nat × S)} (hs : ∀ x ∈ sims, Nonneg x.2) (d : Nat) {s : S} (h : Nonneg s) :
    Nonneg (blend sims d s) := by
  unfold blend
  split
  · rename_i sim hf
    exact add_nonneg _ _ h (mul_nonneg _ _ (mul_nonneg _ _ (hs _ (List.mem_of_find?_eq_some hf))
      (ofQ_nonneg _ (by decide) (by decide))) (ofQ_nonneg _ (by decide) (by decide)))
  · exact h

theorem Ranked.rerank {n : Nat} {r : List (Nat × S)} (h : Ranked n r) {T : Tuning S} (hT : TfidfNonneg T)
    (nq : Bytes) (limit : Nat) : Ranked n (rerank T nq limit r) := by
  rw [rerank_eq]
  split
  · exact h
  · rename_i rank hr
    have ht : Cand n (rerankWindow limit r) := h.toCand.sublist (List.take_sublist _ r)
    exact (ht.rescore (fun x hx => blend_nonneg (fun y hy => hT rank hr nq y (List.mem_of_mem_take hy)) _
      (ht.nonneg x hx))).sortDesc

theorem Ranked.cascade {n : Nat} {r : List (Nat × S)} (h : Ranked n r) {nl : NlpOut S} (hn : nl.FactorsNonneg) :
    Ranked n (cascadeStage nl r) := by
  rw [cascadeStage_eq]
  exact (h.toCand.rescore (fun x hx => mul_nonneg _ _ (h.nonneg x hx) (hn x.1).2)).sortDesc

end Wtf.Search
