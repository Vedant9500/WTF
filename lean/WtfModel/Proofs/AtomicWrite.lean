import WtfModel.Model.AtomicWrite
/-! For C09.  A run of a step program is taken apart one step at a time (`mem_outcomes_cons`); what is read under a path
  that no call of the program touches is the same at the end of every run, killed and failed ones included
  (`outcomes_frame`).  `rename_protocol` is the dichotomy for a program whose last step renames a prepared file onto
  `p`: a run that does not report success leaves `p` as it was, one that does has the new content under `p`.
  `runPlan_mem`: the planned-fault runs the correspondence driver executes (`runPlan`) are among the outcomes;
  `crashPoints_states`: the labelled crash points the driver enumerates for a traced call sequence (`crashPoints`) carry
  exactly the states of `crashStates`. -/
namespace Wtf.AtomicWrite

variable {π : Type} [DecidableEq π]

theorem remove_cons (e : π × Bytes) (r : Fs π) (p : π) :
    remove (e :: r) p = if e.1 = p then remove r p else e :: remove r p := by
  by_cases h : e.1 = p <;> simp [remove, h]

theorem read_cons (q : π) (b : Bytes) (r : Fs π) (p : π) :
    read ((q, b) :: r) p = if q = p then some b else read r p := rfl

theorem read_remove (fs : Fs π) (q p : π) : read (remove fs q) p = if q = p then none else read fs p := by
  induction fs with
  | nil => split <;> rfl
  | cons e r ih =>
    obtain ⟨a, b⟩ := e
    rw [remove_cons, read_cons]
    by_cases ha : a = q
    · rw [if_pos ha, ih]
      split
      · rfl
      · rename_i hq; rw [if_neg (ha ▸ hq)]
    · rw [if_neg ha, read_cons, ih]
      by_cases hp : a = p
      · rw [if_pos hp, if_neg (fun e => ha (hp.trans e.symm)), if_pos hp]
      · rw [if_neg hp, if_neg hp]

theorem read_put (fs : Fs π) (q p : π) (b : Bytes) : read (put fs q b) p = if q = p then some b else read fs p := by
  rw [put, read_cons, read_remove]
  split <;> rfl

theorem apply_frame {p : π} {op : SysOp π} (h : touches p op = false) (fs : Fs π) :
    read (apply fs op) p = read fs p := by
  cases op with
  | createTemp t => simp [touches] at h; simp [apply, read_put, h]
  | openTrunc q => simp [touches] at h; simp [apply, read_put, h]
  | write q d =>
    simp [touches] at h
    simp only [apply]
    split
    · rw [read_put, if_neg h]
    · rfl
  | chmod _ => rfl
  | fsync _ => rfl
  | close _ => rfl
  | rename a b =>
    simp [touches] at h
    simp only [apply]
    split
    · rw [read_put, if_neg h.2, read_remove, if_neg h.1]
    · rfl
  | unlink q => simp [touches] at h; simp [apply, read_remove, h]

theorem failStates_frame {fs : Fs π} {p : π} {op : SysOp π} (h : touches p op = false) :
    ∀ {f}, f ∈ failStates fs op → read f p = read fs p := by
  cases op <;> simp [failStates]
  case write q d =>
    intro f hf
    simp only [cuts, List.mem_map] at hf
    obtain ⟨k, _, rfl⟩ := hf
    exact apply_frame (op := .write q (d.take k)) h fs

theorem partials_sub_failStates {fs : Fs π} {op : SysOp π} : ∀ {f}, f ∈ partials fs op → f ∈ failStates fs op := by
  cases op <;> simp [partials, failStates]

theorem partials_frame {fs : Fs π} {p : π} {op : SysOp π} (h : touches p op = false) {f : Fs π}
    (hf : f ∈ partials fs op) : read f p = read fs p :=
  failStates_frame h (partials_sub_failStates hf)

theorem failStates_nonwrite (fs : Fs π) (op : SysOp π) (h : ∀ q d, op ≠ .write q d) :
    failStates fs op = [fs] := by
  cases op <;> simp [failStates]
  case write q d => exact absurd rfl (h q d)

theorem cleanupRuns_frame {p : π} {fs : Fs π} {cs : List (SysOp π)} (h : ∀ c ∈ cs, touches p c = false) :
    ∀ {r}, r ∈ cleanupRuns fs cs → read r.fs p = read fs p := by
  fun_induction cleanupRuns fs cs with
  | case1 fs => intro r hr; rw [List.mem_singleton.mp hr]
  | case2 fs c cs ih1 ih2 =>
    have hcs : ∀ c' ∈ cs, touches p c' = false := fun c' hc' => h c' (List.mem_cons_of_mem _ hc')
    intro r hr
    rcases List.mem_cons.mp hr with rfl | hr
    · rfl
    · rcases List.mem_append.mp hr with hr | hr
      · rw [← apply_frame (h c List.mem_cons_self) fs]; exact ih1 hcs hr
      · exact ih2 hcs hr

theorem cleanupRuns_out {fs : Fs π} {cs : List (SysOp π)} :
    ∀ {r}, r ∈ cleanupRuns fs cs → r.out ≠ .success ∧ r.failed = true := by
  fun_induction cleanupRuns fs cs with
  | case1 fs => intro r hr; rw [List.mem_singleton.mp hr]; exact ⟨nofun, rfl⟩
  | case2 fs c cs ih1 ih2 =>
    intro r hr
    rcases List.mem_cons.mp hr with rfl | hr
    · exact ⟨nofun, rfl⟩
    · exact (List.mem_append.mp hr).elim ih1 ih2

/-- how a run of `s :: rest` can end: killed before `s`, killed inside it, `s` fails (then the clean-up, or
    the rest of the program when the failure is ignored), or `s` completes and the rest runs -/
theorem mem_outcomes_cons {fs : Fs π} {failed : Bool} {s : Step π} {rest : Prog π} {r : Result π} :
    r ∈ outcomes fs failed (s :: rest) ↔
      r = ⟨fs, .killed, failed⟩ ∨ (∃ f ∈ partials fs s.op, r = ⟨f, .killed, failed⟩) ∨
      (∃ f ∈ failStates fs s.op, r ∈ if s.checked then cleanupRuns f s.cleanup else outcomes f true rest) ∨
      r ∈ outcomes (apply fs s.op) failed rest := by
  simp only [outcomes, List.mem_cons, List.mem_append, List.mem_map, List.mem_flatMap, eq_comm]

def Avoids (p : π) (prog : Prog π) : Prop :=
  ∀ s ∈ prog, touches p s.op = false ∧ ∀ c ∈ s.cleanup, touches p c = false

def AllChecked (prog : Prog π) : Prop := ∀ s ∈ prog, s.checked = true

theorem avoids_nil (p : π) : Avoids p ([] : Prog π) := fun _ h => (List.not_mem_nil h).elim

theorem avoids_cons {p : π} {s : Step π} {rest : Prog π} :
    Avoids p (s :: rest) ↔ (touches p s.op = false ∧ ∀ c ∈ s.cleanup, touches p c = false) ∧ Avoids p rest :=
  List.forall_mem_cons

theorem avoids_append {p : π} {a b : Prog π} : Avoids p (a ++ b) ↔ Avoids p a ∧ Avoids p b :=
  List.forall_mem_append

theorem outcomes_frame {p : π} {prog : Prog π} :
    ∀ {fs : Fs π} {failed : Bool}, Avoids p prog → ∀ {r}, r ∈ outcomes fs failed prog → read r.fs p = read fs p := by
  induction prog with
  | nil => intro fs failed _ r hr; rw [outcomes, List.mem_singleton] at hr; rw [hr]
  | cons s rest ih =>
    intro fs failed hav r hr
    have hs := hav s List.mem_cons_self
    have hrest : Avoids p rest := fun s' hs' => hav s' (List.mem_cons_of_mem _ hs')
    rcases mem_outcomes_cons.mp hr with rfl | ⟨f, hf, rfl⟩ | ⟨f1, hf1, hr⟩ | hr
    · rfl
    · exact partials_frame hs.1 hf
    · rw [← failStates_frame hs.1 hf1]
      split at hr
      · exact cleanupRuns_frame hs.2 hr
      · exact ih hrest hr
    · rw [← apply_frame hs.1 fs]; exact ih hrest hr

theorem mem_outcomes_append {pre post : Prog π} :
    ∀ {fs : Fs π} {failed : Bool}, AllChecked pre → ∀ {r}, r ∈ outcomes fs failed (pre ++ post) →
      (r ∈ outcomes fs failed pre ∧ r.out ≠ .success) ∨
      r ∈ outcomes (runAll fs (pre.map (·.op))) failed post := by
  induction pre with
  | nil => intro fs failed _ r hr; exact Or.inr hr
  | cons s rest ih =>
    intro fs failed hall r hr
    have hs : s.checked = true := hall s List.mem_cons_self
    simp only [List.cons_append, mem_outcomes_cons, hs, ↓reduceIte] at hr ⊢
    rcases hr with rfl | ⟨f, hf, rfl⟩ | ⟨f1, hf1, hr⟩ | hr
    · exact Or.inl ⟨Or.inl rfl, nofun⟩
    · exact Or.inl ⟨Or.inr (Or.inl ⟨f, hf, rfl⟩), nofun⟩
    · exact Or.inl ⟨Or.inr (Or.inr (Or.inl ⟨f1, hf1, hr⟩)), (cleanupRuns_out hr).1⟩
    · exact (ih (fun s' hs' => hall s' (List.mem_cons_of_mem _ hs')) hr).imp
        (fun h => ⟨Or.inr (Or.inr (Or.inr h.1)), h.2⟩) id

theorem outcomes_checked (prog : Prog π) :
    ∀ (fs : Fs π) (failed : Bool), AllChecked prog → ∀ r ∈ outcomes fs failed prog,
      (r.out = .success → r.fs = runAll fs (prog.map (·.op)) ∧ r.failed = failed) ∧
      (r.failed = true → failed = false → r.out ≠ .success) := by
  intro fs failed hall r hr
  rw [← List.append_nil prog] at hr
  rcases mem_outcomes_append hall hr with ⟨_, h⟩ | h
  · exact ⟨fun hs => absurd hs h, fun _ _ => h⟩
  · rw [outcomes, List.mem_singleton] at h
    subst h
    exact ⟨fun _ => ⟨rfl, rfl⟩, fun hf hn => by rw [hn] at hf; cases hf⟩

theorem crashStates_sub_outcomes {prog : Prog π} (failed : Bool) :
    ∀ {fs : Fs π} {f}, f ∈ crashStates fs (prog.map (·.op)) → ∃ r ∈ outcomes fs failed prog, r.fs = f := by
  induction prog with
  | nil => intro fs f hf; exact ⟨⟨fs, .success, failed⟩, List.mem_singleton.mpr rfl, (List.mem_singleton.mp hf).symm⟩
  | cons s rest ih =>
    intro fs f hf
    simp only [List.map_cons, crashStates, List.mem_cons, List.mem_append] at hf
    rcases hf with rfl | hf | hf
    · exact ⟨_, mem_outcomes_cons.mpr (Or.inl rfl), rfl⟩
    · exact ⟨_, mem_outcomes_cons.mpr (Or.inr (Or.inl ⟨f, hf, rfl⟩)), rfl⟩
    · obtain ⟨r, hr, rfl⟩ := ih hf
      exact ⟨r, mem_outcomes_cons.mpr (Or.inr (Or.inr (Or.inr hr))), rfl⟩

theorem crashPoints_states (ops : List (SysOp π)) :
    ∀ (fs : Fs π) (i : Nat), (crashPoints fs i ops).map (·.2.2) = crashStates fs ops := by
  induction ops with
  | nil => intro fs i; rfl
  | cons op rest ih =>
    intro fs i
    simp only [crashPoints, crashStates, List.map_cons, List.map_append, ih]
    cases op <;> simp [partials, cuts]

theorem failAt_mem_failStates (fs : Fs π) (op : SysOp π) (k : Nat)
    (hk : ∀ q d, op = .write q d → k ≤ d.length) : failAt fs k op ∈ failStates fs op := by
  cases op <;> simp [failAt, failStates]
  case write q d =>
    simp only [cuts, List.mem_map, List.mem_range]
    exact ⟨k, by have := hk q d rfl; omega, rfl⟩

theorem cleanup_full_mem {fs : Fs π} {cs : List (SysOp π)} :
    (⟨runAll fs cs, .reportedError, true⟩ : Result π) ∈ cleanupRuns fs cs := by
  fun_induction cleanupRuns fs cs with
  | case1 fs => exact List.mem_singleton.mpr rfl
  | case2 fs c cs ih1 _ => exact List.mem_cons_of_mem _ (List.mem_append_left _ ih1)
theorem runPlan_none_mem {prog : Prog π} :
    ∀ {fs : Fs π} {failed : Bool}, runPlan fs failed prog none ∈ outcomes fs failed prog := by
  induction prog with
  | nil => intro fs failed; exact List.mem_singleton.mpr rfl
  | cons s rest ih => intro fs failed; exact mem_outcomes_cons.mpr (Or.inr (Or.inr (Or.inr ih)))

/-- index `i` names a write ⇒ the cut `k` is within its data -/
def PlanOk : Prog π → Nat → Nat → Prop
  | [], _, _ => True
  | s :: _, 0, k => ∀ q d, s.op = .write q d → k ≤ d.length
  | _ :: rest, i + 1, k => PlanOk rest i k

theorem runPlan_mem (prog : Prog π) :
    ∀ (fs : Fs π) (failed : Bool) (i k : Nat), PlanOk prog i k →
      runPlan fs failed prog (some (i, k)) ∈ outcomes fs failed prog := by
  induction prog with
  | nil => intro fs failed i k _; exact List.mem_singleton.mpr rfl
  | cons s rest ih =>
    intro fs failed i k hp
    rw [mem_outcomes_cons]
    cases i with
    | zero =>
      refine Or.inr (Or.inr (Or.inl ⟨failAt fs k s.op, failAt_mem_failStates fs s.op k hp, ?_⟩))
      rw [runPlan]
      split
      · exact cleanup_full_mem
      · exact runPlan_none_mem
    | succ i => exact Or.inr (Or.inr (Or.inr (ih _ _ i k hp)))

theorem runAll_frame {p : π} {ops : List (SysOp π)} (h : ∀ op ∈ ops, touches p op = false) (fs : Fs π) :
    read (runAll fs ops) p = read fs p := by
  induction ops generalizing fs with
  | nil => rfl
  | cons op ops ih =>
    rw [runAll, List.foldl_cons, ← runAll, ih (fun o ho => h o (List.mem_cons_of_mem _ ho)),
      apply_frame (h op List.mem_cons_self)]

/-- A program `pre ++ [rename t p]` (all steps checked; `pre` and the rename's clean-up leave `p` alone; `pre`,
    run to completion, leaves `new` in `t`): every run either does not report success and leaves `p` as it
    was, or reports success without a failed call, with `new` under `p` and nothing under `t`. -/
theorem rename_protocol {pre : Prog π} {t p : π} {cl : List (SysOp π)} {new : Bytes} {fs : Fs π} (h : t ≠ p)
    (hck : AllChecked pre) (hav : Avoids p pre) (hcl : ∀ c ∈ cl, touches p c = false)
    (ht : read (runAll fs (pre.map (·.op))) t = some new) :
    ∀ r ∈ outcomes fs false (pre ++ [⟨.rename t p, true, cl⟩]),
      (r.out ≠ .success ∧ read r.fs p = read fs p) ∨
      (r.out = .success ∧ r.failed = false ∧ read r.fs p = some new ∧ read r.fs t = none) := by
  intro r hr
  rcases mem_outcomes_append hck hr with ⟨h1, h2⟩ | h2
  · exact Or.inl ⟨h2, outcomes_frame hav h1⟩
  · have hp : read (runAll fs (pre.map (·.op))) p = read fs p :=
      runAll_frame (by simpa using fun s hs => (hav s hs).1) fs
    rw [← hp]
    generalize runAll fs (pre.map (·.op)) = f at ht h2
    rw [mem_outcomes_cons] at h2
    rcases h2 with rfl | ⟨_, hf, _⟩ | ⟨f1, hf1, h2⟩ | h2
    · exact Or.inl ⟨by simp, rfl⟩
    · cases hf
    · rw [failStates_nonwrite _ _ (fun _ _ e => by cases e), List.mem_singleton] at hf1
      subst hf1
      rw [if_pos rfl] at h2
      exact Or.inl ⟨(cleanupRuns_out h2).1, cleanupRuns_frame hcl h2⟩
    · rw [outcomes, List.mem_singleton] at h2
      subst h2
      have hpt : p ≠ t := fun e => h e.symm
      exact Or.inr ⟨rfl, rfl, by simp [apply, ht, read_put], by simp [apply, ht, read_put, read_remove, hpt]⟩
end Wtf.AtomicWrite
