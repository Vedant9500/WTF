import WtfModel.Model.GoSort

/-!
  Go's `sort.Stable` as modelled in `Model/GoSort.lean`.  Every procedure is specified on `toList` written as a concatenation
  of segments: `d.toList = X ++ (U ++ (V ++ Y))`, the indices given by the lengths, implies that the result is `X ++ (W ++ Y)`
  with `W` a permutation of the segments worked on, in the order claimed.  In every comparison `data.Less(i, j)` the element
  at `i` stood after the element at `j` in the input, so the output is in the order `R` for every total preorder `R` that goes
  along with the answers of `less` on such pairs (`goStable_agree`): a permutation for every `less`, sorted for `R = less`.
-/
namespace Wtf.GoSort

variable {α : Type}

theorem getElem?_mid {L X Y : List α} {x : α} {i : Nat} (h : L = X ++ x :: Y) (hi : X.length = i) : L[i]? = some x :=
  List.getElem?_eq_some_iff.2 ⟨_, List.getElem_of_append h hi⟩

theorem set_mid (X Y : List α) (x v : α) {i : Nat} (hi : X.length = i) : (X ++ x :: Y).set i v = X ++ v :: Y := by
  subst hi
  rw [List.set_append_right _ _ (Nat.le_refl _), Nat.sub_self, List.set_cons_zero]

theorem reassoc (X Z W : List α) (x : α) : X ++ x :: (Z ++ W) = (X ++ x :: Z) ++ W := by
  rw [List.append_assoc, List.cons_append]

theorem cut_left (L : List α) {n : Nat} (hn : n ≤ L.length) : ∃ A B, L = A ++ B ∧ A.length = n :=
  ⟨L.take n, L.drop n, (List.take_append_drop n L).symm, List.length_take_of_le hn⟩

theorem cut_right (L : List α) {n : Nat} (hn : n ≤ L.length) : ∃ A B, L = A ++ B ∧ B.length = n :=
  ⟨L.take (L.length - n), L.drop (L.length - n), (List.take_append_drop _ L).symm, by rw [List.length_drop]; omega⟩

theorem cut (L : List α) {p n : Nat} (k : Nat) (h : p + L.length = n) (h1 : p ≤ k) (h2 : k ≤ n) :
    ∃ L1 L2, L = L1 ++ L2 ∧ p + L1.length = k ∧ k + L2.length = n :=
  ⟨L.take (k - p), L.drop (k - p), (List.take_append_drop _ _).symm, by rw [List.length_take]; omega,
    by rw [List.length_drop]; omega⟩

theorem toList_swp (d : Array α) {i j : Nat} {x y : α} (hi : d.toList[i]? = some x) (hj : d.toList[j]? = some y) :
    (swp d i j).toList = (d.toList.set i y).set j x := by
  obtain ⟨li, rfl⟩ := List.getElem?_eq_some_iff.1 hi
  obtain ⟨lj, rfl⟩ := List.getElem?_eq_some_iff.1 hj
  unfold swp
  rw [Array.swapIfInBounds_def, dif_pos (show i < d.size from li), dif_pos (show j < d.size from lj), Array.toList_swap]
  rfl

/-- `data.Swap(i, j)` and `data.Swap(j, i)` (the loops that walk down swap with the higher index first) -/
theorem swp_toList (d : Array α) (X Z Y : List α) (x y : α) {i j : Nat} (h : d.toList = X ++ x :: (Z ++ y :: Y))
    (hi : X.length = i) (hj : i + 1 + Z.length = j) :
    (swp d i j).toList = X ++ y :: (Z ++ x :: Y) ∧ (swp d j i).toList = X ++ y :: (Z ++ x :: Y) := by
  have hj' (w : α) : (X ++ w :: Z).length = j := by rw [List.length_append, List.length_cons]; omega
  have ei := getElem?_mid h hi
  have ej := getElem?_mid (h.trans (reassoc X Z _ x)) (hj' x)
  have e : (d.toList.set i y).set j x = X ++ y :: (Z ++ x :: Y) := by
    rw [h, set_mid X _ x y hi, reassoc, set_mid _ Y y x (hj' y), ← reassoc]
  exact ⟨(toList_swp d ei ej).trans e, (toList_swp d ej ei).trans ((List.set_comm _ _ (by omega)).trans e)⟩

theorem swp_down (d : Array α) (X M Y : List α) (z x : α) {k : Nat} (h : d.toList = X ++ (M ++ z :: x :: Y))
    (hk : X.length + M.length = k) : (swp d (k + 1) k).toList = X ++ (M ++ x :: z :: Y) := by
  rw [← List.append_assoc] at h ⊢
  exact (swp_toList d (X ++ M) [] Y z x h (by rw [List.length_append]; exact hk) rfl).2

/-- `for k := k; k < hi; k++ { Swap(k, k+1) }`: `x` travels over `M` -/
theorem bubbleUp_toList (X M Y : List α) (x : α) (fuel : Nat) (d : Array α) {k hi : Nat}
    (h : d.toList = X ++ x :: (M ++ Y)) (hk : X.length = k) (hhi : k + M.length = hi) (hf : M.length ≤ fuel) :
    (bubbleUp hi fuel k d).toList = X ++ (M ++ x :: Y) := by
  induction fuel generalizing X M d k with
  | zero =>
    rw [List.eq_nil_of_length_eq_zero (Nat.le_zero.1 hf)] at h ⊢
    exact h
  | succ f ih =>
    unfold bubbleUp
    cases M with
    | nil => rw [if_neg (by rw [← hhi]; exact Nat.lt_irrefl k)]; exact h
    | cons z M =>
      rw [List.length_cons] at hhi
      rw [if_pos (by omega)]
      -- one swap: `X x z M Y ↦ X z x M Y`; the rest of the loop moves `x` over `M`
      have h1 := (swp_toList d X [] (M ++ Y) x z (j := k + 1) h hk rfl).1
      rw [List.append_cons X z] at h1
      rw [ih (X ++ [z]) M _ (k := k + 1) h1 (by rw [List.length_append, hk]; rfl) (by omega) (Nat.le_of_succ_le_succ hf),
        List.append_assoc]
      rfl

/-- `for k := k; k > lo; k-- { Swap(k, k-1) }`: `x` travels down over `M` -/
theorem bubbleDown_toList (X M Y : List α) (x : α) (d : Array α) {lo k : Nat}
    (h : d.toList = X ++ (M ++ x :: Y)) (hlo : X.length = lo) (hk : lo + M.length = k) :
    (bubbleDown lo k d).toList = X ++ x :: (M ++ Y) := by
  induction k generalizing M Y d with
  | zero =>
    rw [List.eq_nil_of_length_eq_zero (Nat.eq_zero_of_add_eq_zero_left hk)] at h ⊢
    exact h
  | succ k ih =>
    unfold bubbleDown
    rcases List.eq_nil_or_concat M with rfl | ⟨M, z, rfl⟩
    · rw [if_neg (by rw [← hk]; exact Nat.lt_irrefl lo)]
      exact h
    · rw [List.concat_eq_append, List.append_assoc] at h ⊢
      rw [List.concat_eq_append, List.length_append, List.length_singleton] at hk
      rw [if_pos (by omega)]
      -- one swap: `X M z x Y ↦ X M x z Y`; the rest of the loop moves `x` over `M`
      exact ih M (z :: Y) _ (swp_down d X M Y z x h (by omega)) (by omega)

theorem swapRange_stop {L : List α} {P U M V Y : List α} (h : L = P ++ (U ++ (M ++ (V ++ Y))))
    (hUV : U.length = V.length) (hU : U.length = 0) : L = P ++ (V ++ (M ++ (U ++ Y))) := by
  have hU0 : U = [] := List.eq_nil_of_length_eq_zero hU
  have hV0 : V = [] := List.eq_nil_of_length_eq_zero (hUV ▸ hU)
  rw [h, hU0, hV0]

/-- the loop at counter `i`: `P` ends with the `i` elements already swapped in, `M` ends with the `i` swapped out -/
theorem swapRangeLoop_toList (a b n fuel i : Nat) (d : Array α) (P U M V Y : List α)
    (h : d.toList = P ++ (U ++ (M ++ (V ++ Y)))) (hP : a + i = P.length) (hM : b + i = P.length + U.length + M.length)
    (hU : U.length + i = n) (hUV : U.length = V.length) (hf : U.length ≤ fuel) :
    (swapRangeLoop a b n fuel i d).toList = P ++ (V ++ (M ++ (U ++ Y))) := by
  induction fuel generalizing i d P U M V with
  | zero => exact swapRange_stop h hUV (Nat.le_zero.mp hf)
  | succ f ih =>
    unfold swapRangeLoop
    by_cases hlt : i < n
    · rw [if_pos hlt]
      obtain ⟨u, U, rfl⟩ := List.exists_cons_of_length_pos (l := U) (by omega)
      obtain ⟨v, V, rfl⟩ := List.exists_cons_of_length_pos (l := V) (hUV ▸ Nat.succ_pos _)
      rw [List.length_cons] at hU hf hM
      -- one swap: `P u U M v V Y ↦ P v U M u V Y`, read as `(P v) U (M u) V Y`
      have h1 : d.toList = P ++ u :: ((U ++ M) ++ v :: (V ++ Y)) := by
        rw [h]; simp only [List.append_assoc, List.cons_append]
      have h2 := (swp_toList d P (U ++ M) (V ++ Y) u v (i := a + i) (j := b + i) h1 hP.symm
        (by rw [List.length_append]; omega)).1
      have h3 : (swp d (a + i) (b + i)).toList = (P ++ [v]) ++ (U ++ ((M ++ [u]) ++ (V ++ Y))) := by
        rw [h2]; simp only [List.append_assoc, List.cons_append, List.nil_append]
      have lP : (P ++ [v]).length = P.length + 1 := List.length_append
      have lM : (M ++ [u]).length = M.length + 1 := List.length_append
      rw [ih (i + 1) _ (P ++ [v]) U (M ++ [u]) V h3 (by rw [lP, ← hP]; rfl) (by omega) (by omega) (Nat.succ.inj hUV)
        (Nat.le_of_succ_le_succ hf)]
      simp only [List.append_assoc, List.cons_append, List.nil_append]
    · rw [if_neg hlt]; exact swapRange_stop h hUV (by omega)

theorem swapRange_toList (d : Array α) (P U M V Y : List α) {a b n : Nat}
    (h : d.toList = P ++ (U ++ (M ++ (V ++ Y)))) (ha : P.length = a) (hb : a + U.length + M.length = b)
    (hU : U.length = n) (hV : V.length = n) :
    (swapRange d a b n).toList = P ++ (V ++ (M ++ (U ++ Y))) :=
  swapRangeLoop_toList a b n n 0 d P U M V Y h ha.symm (by omega) hU (hU.trans hV.symm) (Nat.le_of_eq hU)

theorem rotateLoop_toList (m fuel : Nat) (d : Array α) (X U V Y : List α) {i j : Nat}
    (h : d.toList = X ++ (U ++ (V ++ Y))) (hm : m = X.length + U.length) (hi : i = U.length) (hj : j = V.length)
    (hi1 : 0 < i) (hj1 : 0 < j) (hf : i + j ≤ fuel + 1) :
    (rotateLoop m fuel i j d).toList = X ++ (V ++ (U ++ Y)) := by
  induction fuel generalizing i j d X U V Y with
  | zero => omega
  | succ f ih =>
    unfold rotateLoop
    by_cases hne : i = j
    · -- equally long: one `swapRange` with nothing in between
      rw [if_neg (by simpa using hne)]
      exact swapRange_toList d X U [] V Y h (by omega) (by rw [List.length_nil]; omega) hi.symm (by omega)
    · rw [if_pos (by simpa using hne)]
      by_cases hgt : i > j
      · -- `U = U1 U2` with `|U1| = |V|`: `X U1 U2 V Y ↦ X V U2 U1 Y`, then `U2` and `U1` are rotated: `X V U1 U2 Y`
        rw [if_pos hgt]
        obtain ⟨U1, U2, rfl, l1⟩ := cut_left U (n := j) (by omega)
        rw [List.length_append] at hm hi
        have h1 : d.toList = X ++ (U1 ++ (U2 ++ (V ++ Y))) := by rw [h, List.append_assoc]
        have h2 := swapRange_toList d X U1 U2 V Y (a := m - i) (b := m) (n := j) h1 (by omega) (by omega) l1 hj.symm
        rw [← List.append_assoc X] at h2
        rw [ih _ (X ++ V) U2 U1 Y h2 (by rw [List.length_append]; omega) (by omega) l1.symm (by omega) hj1 (by omega)]
        simp only [List.append_assoc]
      · -- `V = V1 V2` with `|V2| = |U|`: `X U V1 V2 Y ↦ X V2 V1 U Y`, then `V2` and `V1` are rotated: `X V1 V2 U Y`
        rw [if_neg hgt]
        obtain ⟨V1, V2, rfl, l2⟩ := cut_right V (n := i) (by omega)
        rw [List.length_append] at hj
        have h1 : d.toList = X ++ (U ++ (V1 ++ (V2 ++ Y))) := by rw [h, List.append_assoc]
        have h2 := swapRange_toList d X U V1 V2 Y (a := m - i) (b := m + j - i) (n := i) h1 (by omega) (by omega)
          hi.symm l2
        rw [ih _ X V2 V1 (U ++ Y) h2 (by omega) l2.symm (by omega) hi1 (by omega) (by omega)]
        simp only [List.append_assoc]

theorem rotate_toList (d : Array α) (X U V Y : List α) {a m b : Nat} (h : d.toList = X ++ (U ++ (V ++ Y)))
    (ha : X.length = a) (hm : a + U.length = m) (hb : m + V.length = b) (ham : a < m) (hmb : m < b) :
    (rotate d a m b).toList = X ++ (V ++ (U ++ Y)) :=
  rotateLoop_toList m _ d X U V Y h (by omega) (by omega) (by omega) (by omega) (by omega) (by omega)

/-- the binary-search loop (the three searches of `symMerge`) on `[i, j)`: the result `r` is in `[i, j]`; left of it the last
    probe said "go right", at it the probe said "stay" — whatever `right` is (no monotonicity needed) -/
theorem bsearch_spec' (right : Nat → Bool) (fuel i j : Nat) (hij : i ≤ j) (hf : j ≤ i + fuel) {r : Nat}
    (h : r = bsearch right fuel i j) :
    i ≤ r ∧ r ≤ j ∧ (i < r → right (r - 1) = true) ∧ (r < j → right r = false) := by
  subst h
  induction fuel generalizing i j with
  | zero => exact ⟨Nat.le_refl _, hij, fun c => absurd c (Nat.lt_irrefl _), fun c => absurd c (Nat.not_lt.2 hf)⟩
  | succ f ih =>
    unfold bsearch
    by_cases hlt : i < j
    · rw [if_pos hlt]
      dsimp only
      by_cases hp : right ((i + j) / 2) = true
      · rw [if_pos hp]
        obtain ⟨b1, b2, b3, b4⟩ := ih ((i + j) / 2 + 1) j (by omega) (by omega)
        -- the result is the place just right of the probe, or further right
        refine ⟨by omega, b2, fun _ => ?_, b4⟩
        rcases Nat.eq_or_lt_of_le b1 with e | e
        · rw [← e]; exact hp
        · exact b3 e
      · rw [if_neg hp]
        obtain ⟨b1, b2, b3, b4⟩ := ih i ((i + j) / 2) (by omega) (by omega)
        -- the result is the place of the probe, or further left
        refine ⟨b1, by omega, b3, fun _ => ?_⟩
        rcases Nat.eq_or_lt_of_le b2 with e | e
        · rw [e]; simpa using hp
        · exact b4 e
    · rw [if_neg hlt]
      exact ⟨Nat.le_refl _, hij, fun c => absurd c (Nat.lt_irrefl _), fun c => absurd c hlt⟩

/-- `less` is the non-strict version of a total preorder (`less a b = decide (key a ≥ key b)` is one) -/
structure TotalPreorder (less : α → α → Bool) : Prop where
  total : ∀ x y, less x y = true ∨ less y x = true
  trans : ∀ x y z, less x y = true → less y z = true → less x z = true

theorem TotalPreorder.of_false {less : α → α → Bool} (h : TotalPreorder less) {x y : α} (hxy : less x y = false) :
    less y x = true := by
  rcases h.total x y with h1 | h1
  · rw [hxy] at h1; cases h1
  · exact h1

/-- the algorithm compares with `less`; `R` is the order its output is shown to have; `B x y`: `x` stood before `y` in the
    input.  Whenever the first argument stood after the second, `R` goes along with the answer of `less`.  (Every `less`
    agrees with the `R` that relates everything: that instance is the permutation claim for every `less`.) -/
structure Agree (less R : α → α → Bool) (B : α → α → Prop) : Prop where
  pre : TotalPreorder R
  yes : ∀ x y, B y x → less x y = true → R x y = true
  no : ∀ x y, B y x → less x y = false → R y x = true

abbrev Sorted (R : α → α → Bool) (L : List α) : Prop := L.Pairwise (fun x y => R x y = true)

variable {R : α → α → Bool}

theorem le_through (hR : TotalPreorder R) {P Q : List α} (sP : Sorted R P) (sQ : Sorted R Q)
    (h : ∀ p q, P.getLast? = some p → Q.head? = some q → R p q = true) : ∀ x ∈ P, ∀ y ∈ Q, R x y = true := by
  intro x hx y hy
  rcases List.eq_nil_or_concat P with rfl | ⟨P, p, rfl⟩
  · nomatch hx
  cases Q with
  | nil => nomatch hy
  | cons q Q =>
    rw [List.concat_eq_append] at sP hx h
    -- the last `p` of `P` is before the first `q` of `Q`, hence before `y`; and `x` is `p` or before it
    have hpy : R p y = true := by
      rcases List.mem_cons.1 hy with e | e
      · rw [e]; exact h p q List.getLast?_concat rfl
      · exact hR.trans _ _ _ (h p q List.getLast?_concat rfl) ((List.pairwise_cons.1 sQ).1 y e)
    rcases List.mem_append.1 hx with e | e
    · exact hR.trans _ _ _ ((List.pairwise_append.1 sP).2.2 x e p (List.mem_singleton.2 rfl)) hpy
    · rw [List.mem_singleton.1 e]; exact hpy

theorem insert_sorted (hR : TotalPreorder R) {L1 L2 : List α} {x : α} (s : Sorted R (L1 ++ L2))
    (h1 : ∀ z, L1.getLast? = some z → R z x = true) (h2 : ∀ z, L2.head? = some z → R x z = true) :
    Sorted R (L1 ++ x :: L2) := by
  obtain ⟨s1, s2, -⟩ := List.pairwise_append.1 s
  have sx : Sorted R [x] := List.pairwise_singleton _ _
  have s2' : Sorted R ([x] ++ L2) :=
    List.pairwise_append.2 ⟨sx, s2, le_through hR sx s2 fun p q hp hq => Option.some.inj hp ▸ h2 q hq⟩
  exact List.pairwise_append.2 ⟨s1, s2', le_through hR s1 s2' fun p q hp hq => Option.some.inj hq ▸ h1 p hp⟩

theorem cross_le (hR : TotalPreorder R) {U1 U2 V1 V2 : List α} (sU : Sorted R (U1 ++ U2)) (sV : Sorted R (V1 ++ V2))
    (hL : ∀ u v, U1.getLast? = some u → V2.head? = some v → R u v = true)
    (hRt : ∀ v u, V1.getLast? = some v → U2.head? = some u → R v u = true) :
    ∀ x ∈ U1 ++ V1, ∀ y ∈ U2 ++ V2, R x y = true := by
  obtain ⟨sU1, sU2, sU12⟩ := List.pairwise_append.1 sU
  obtain ⟨sV1, sV2, sV12⟩ := List.pairwise_append.1 sV
  exact List.forall_mem_append.2
    ⟨fun x hx => List.forall_mem_append.2 ⟨sU12 x hx, le_through hR sU1 sV2 hL x hx⟩,
      fun x hx => List.forall_mem_append.2 ⟨le_through hR sV1 sU2 hRt x hx, sV12 x hx⟩⟩

theorem get_cut {L P A B Z : List α} {s : Nat} (h : L = P ++ ((A ++ B) ++ Z)) (hs : P.length + A.length = s) :
    (∀ z, A.getLast? = some z → L[s - 1]? = some z) ∧ (∀ z, B.head? = some z → L[s]? = some z) := by
  constructor
  · intro z hz
    obtain ⟨t, rfl⟩ := List.getLast?_eq_some_iff.1 hz
    refine getElem?_mid (X := P ++ t) (Y := B ++ Z) (by rw [h]; simp only [List.append_assoc]; rfl) ?_
    rw [← hs, List.length_append, List.length_append]
    rfl
  · intro z hz
    obtain ⟨t, rfl⟩ := List.head?_eq_some_iff.1 hz
    exact getElem?_mid (X := P ++ A) (Y := t ++ Z) (by rw [h]; simp only [List.append_assoc]; rfl)
      (by rw [List.length_append]; exact hs)

theorem lessAt_toList (less : α → α → Bool) (d : Array α) {i j : Nat} {x y : α} (hi : d.toList[i]? = some x)
    (hj : d.toList[j]? = some y) : lessAt less d i j = less x y := by
  rw [Array.getElem?_toList] at hi hj
  unfold lessAt
  rw [hi, hj]

variable {less : α → α → Bool} {B : α → α → Prop}

/-- **symMerge**, for one amount of fuel (`symMerge_ordered`; the induction hypothesis in the lemmas about its parts): two
    adjacent runs `U`, `V`, each in order for `R`, become one run `W` in order for `R`, a permutation of `U ++ V`; the rest of the
    array (`X` before, `Y` after) stays -/
def Spec (less R : α → α → Bool) (B : α → α → Prop) (fuel : Nat) : Prop :=
  ∀ (d : Array α) (a m b : Nat) (X U V Y : List α), d.toList = X ++ (U ++ (V ++ Y)) → X.length = a →
    a + U.length = m → m + V.length = b → a < m → m < b → b - a ≤ fuel → Sorted R U → Sorted R V →
    (∀ u ∈ U, ∀ v ∈ V, B u v) →
    ∃ W, (symMerge less fuel d a m b).toList = X ++ (W ++ Y) ∧ W.Perm (U ++ V) ∧ Sorted R W

/-- `if start < m && m < end { rotate }`: the middle pieces change places (nothing to do when one is empty) -/
theorem rotIf (d : Array α) (start m e : Nat) (X U1 U2 V1 V2 Y : List α)
    (hd : d.toList = X ++ ((U1 ++ U2) ++ ((V1 ++ V2) ++ Y))) (h1 : X.length + U1.length = start)
    (h2 : start + U2.length = m) (h3 : m + V1.length = e) :
    (if (decide (start < m) && decide (m < e)) = true then rotate d start m e else d).toList =
      X ++ (U1 ++ (V1 ++ (U2 ++ (V2 ++ Y)))) := by
  by_cases c : start < m ∧ m < e
  · rw [if_pos (by simpa using c), rotate_toList d (X ++ U1) U2 V1 (V2 ++ Y)
      (by rw [hd]; simp only [List.append_assoc]) (by rw [List.length_append]; exact h1) h2 h3 c.1 c.2]
    simp only [List.append_assoc]
  · rw [if_neg (by simpa using c), hd]
    by_cases c' : start = m
    · rw [List.eq_nil_of_length_eq_zero (show U2.length = 0 by omega)]
      simp only [List.nil_append, List.append_nil, List.append_assoc]
    · rw [List.eq_nil_of_length_eq_zero (show V1.length = 0 by omega)]
      simp only [List.nil_append, List.append_assoc]

/-- `if a < m && m < b { symMerge }`: two adjacent ordered runs, one of which may be empty, become one -/
theorem mergeIf {f : Nat} (ih : Spec less R B f) (d : Array α) (a m b : Nat) (X U V Y : List α)
    (hd : d.toList = X ++ (U ++ (V ++ Y))) (hX : X.length = a) (hU : a + U.length = m) (hV : m + V.length = b)
    (hf : b - a ≤ f) (sU : Sorted R U) (sV : Sorted R V) (hB : ∀ u ∈ U, ∀ v ∈ V, B u v) :
    ∃ W, (if (decide (a < m) && decide (m < b)) = true then symMerge less f d a m b else d).toList = X ++ (W ++ Y) ∧
      W.Perm (U ++ V) ∧ Sorted R W := by
  by_cases c : a < m ∧ m < b
  · rw [if_pos (by simpa using c)]
    exact ih d a m b X U V Y hd hX hU hV c.1 c.2 hf sU sV hB
  · rw [if_neg (by simpa using c)]
    refine ⟨U ++ V, by rw [hd]; simp only [List.append_assoc], List.Perm.refl _, ?_⟩
    by_cases c' : a = m
    · rw [List.eq_nil_of_length_eq_zero (show U.length = 0 by omega), List.nil_append]; exact sV
    · rw [List.eq_nil_of_length_eq_zero (show V.length = 0 by omega), List.append_nil]; exact sU

/-- rotate, merge the left pieces, merge the right pieces — given that the left pieces are before the right ones -/
theorem symMerge_step {f : Nat} (ih : Spec less R B f) (d : Array α)
    (a start m mid e b : Nat) (X U1 U2 V1 V2 Y : List α)
    (hd : d.toList = X ++ ((U1 ++ U2) ++ ((V1 ++ V2) ++ Y))) (hX : X.length = a)
    (l1 : a + U1.length = start) (l2 : start + U2.length = m) (l3 : m + V1.length = e) (l4 : e + V2.length = b)
    (l5 : start + V1.length = mid) (hf1 : mid - a ≤ f) (hf2 : b - mid ≤ f)
    (sU : Sorted R (U1 ++ U2)) (sV : Sorted R (V1 ++ V2)) (hB : ∀ u ∈ U1 ++ U2, ∀ v ∈ V1 ++ V2, B u v)
    (hx : ∀ x ∈ U1 ++ V1, ∀ y ∈ U2 ++ V2, R x y = true) :
    let d1 := if (decide (start < m) && decide (m < e)) = true then rotate d start m e else d
    let d2 := if (decide (a < start) && decide (start < mid)) = true then symMerge less f d1 a start mid else d1
    let d3 := if (decide (mid < e) && decide (e < b)) = true then symMerge less f d2 mid e b else d2
    ∃ W, d3.toList = X ++ (W ++ Y) ∧ W.Perm ((U1 ++ U2) ++ (V1 ++ V2)) ∧ Sorted R W := by
  intro d1 d2 d3
  obtain ⟨sU1, sU2, -⟩ := List.pairwise_append.1 sU
  obtain ⟨sV1, sV2, -⟩ := List.pairwise_append.1 sV
  have h1 : d1.toList = X ++ (U1 ++ (V1 ++ (U2 ++ (V2 ++ Y)))) :=
    rotIf d start m e X U1 U2 V1 V2 Y hd (by omega) l2 l3
  obtain ⟨W1, (h2 : d2.toList = _), p1, s1⟩ := mergeIf ih d1 a start mid X U1 V1 (U2 ++ (V2 ++ Y)) h1 hX l1 l5 hf1
    sU1 sV1 (fun u hu v hv => hB u (List.mem_append_left _ hu) v (List.mem_append_left _ hv))
  have lW : a + W1.length = mid := by rw [p1.length_eq, List.length_append]; omega
  obtain ⟨W2, (h3 : d3.toList = _), p2, s2⟩ := mergeIf ih d2 mid e b (X ++ W1) U2 V2 Y
    (by rw [h2]; simp only [List.append_assoc]) (by rw [List.length_append]; omega) (by omega) l4 hf2
    sU2 sV2 (fun u hu v hv => hB u (List.mem_append_right _ hu) v (List.mem_append_right _ hv))
  refine ⟨W1 ++ W2, by rw [h3]; simp only [List.append_assoc], (p1.append p2).trans ?_,
    List.pairwise_append.2 ⟨s1, s2, fun x hx' y hy => hx x (p1.mem_iff.1 hx') y (p2.mem_iff.1 hy)⟩⟩
  simp only [List.append_assoc]
  exact (List.perm_append_comm_assoc V1 U2 V2).append_left U1

variable (R B) in
/-- the list consists of `R`-ordered runs of length `bs` (the last one may be shorter), each of which came earlier in the
    input than everything after it -/
inductive Runs (bs : Nat) : List α → Prop
  | last (L : List α) : L.length ≤ bs → Sorted R L → Runs bs L
  | cons (U L : List α) : U.length = bs → Sorted R U → (∀ u ∈ U, ∀ v ∈ L, B u v) → Runs bs L → Runs bs (U ++ L)

theorem Runs.uncons {bs : Nat} {L : List α} (h : Runs R B bs L) (hs : bs ≤ L.length) :
    ∃ U V, L = U ++ V ∧ U.length = bs ∧ Sorted R U ∧ (∀ u ∈ U, ∀ v ∈ V, B u v) ∧ Runs R B bs V := by
  cases h with
  | last _ h1 h2 =>
    exact ⟨L, [], (List.append_nil L).symm, by omega, h2, fun _ _ v hv => absurd hv List.not_mem_nil,
      .last [] (Nat.zero_le _) List.Pairwise.nil⟩
  | cons U V h1 h2 h3 h4 => exact ⟨U, V, rfl, h1, h2, h3, h4⟩

theorem Runs.final {bs : Nat} {L : List α} (h : Runs R B bs L) (hs : L.length ≤ bs) : Sorted R L := by
  cases h with
  | last _ h1 h2 => exact h2
  | cons U V h1 h2 h3 h4 =>
    rw [List.length_append] at hs
    have : V = [] := List.eq_nil_of_length_eq_zero (by omega)
    rw [this, List.append_nil]; exact h2

/-- the common last step of `blocksLoop` and `mergePass`: a finished run `W` in front of the treated rest `V'` -/
theorem Runs.glue {bs : Nat} {U V W V' : List α} (hW : W.Perm U) (hV : V'.Perm V) (hl : W.length = bs) (sW : Sorted R W)
    (hB : ∀ u ∈ U, ∀ v ∈ V, B u v) (h : Runs R B bs V') : (W ++ V').Perm (U ++ V) ∧ Runs R B bs (W ++ V') :=
  ⟨hW.append hV, .cons W V' hl sW (fun u hu v hv => hB u (hW.mem_iff.mp hu) v (hV.mem_iff.mp hv)) h⟩

/-- the arithmetic of the general case.  The binary search runs on `sr`, the shorter of `[a, m)` and `[mid + m - b, mid)`;
    wherever in it it stops, `start` lies in the left run and `e = mid + m - start` in the right run, and a `start` or `e`
    strictly inside its run is strictly inside `sr` -/
theorem symMerge_range {a m b mid : Nat} (sr : Nat × Nat) (start e : Nat) (ham : a ≤ m) (hmb : m ≤ b)
    (hmid : 2 * mid ≤ a + b ∧ a + b < 2 * mid + 2) (hsr : sr = if m > mid then (mid + m - b, mid) else (a, m)) :
    sr.1 ≤ sr.2 ∧ (sr.1 ≤ start → start ≤ sr.2 → e = mid + m - start →
      e + start = mid + m ∧ a ≤ start ∧ start ≤ m ∧ m ≤ e ∧ e ≤ b ∧
      (a < start → e < b → sr.1 < start) ∧ (start < m → m < e → start < sr.2)) := by
  by_cases hgt : m > mid
  · rw [hsr, if_pos hgt]
    dsimp only
    omega
  · rw [hsr, if_neg hgt]
    dsimp only
    omega

section
variable (hA : Agree less R B)
include hA

/-- the two comparisons across a cut of two adjacent runs — the first of `V2` with the last of `U1`, and the last of `V1`
    with the first of `U2` — and what either answer means for `R`: the first argument of `data.Less` is the one from the
    right run -/
theorem probe_cut (d : Array α) {X U1 U2 V1 V2 Y : List α} {a s m e : Nat}
    (hd : d.toList = X ++ ((U1 ++ U2) ++ ((V1 ++ V2) ++ Y))) (hX : X.length = a) (l1 : a + U1.length = s)
    (l2 : s + U2.length = m) (l3 : m + V1.length = e) (hB : ∀ u ∈ U1 ++ U2, ∀ v ∈ V1 ++ V2, B u v) :
    (∀ u v, U1.getLast? = some u → V2.head? = some v →
      (lessAt less d e (s - 1) = true → R v u = true) ∧ (lessAt less d e (s - 1) = false → R u v = true)) ∧
    (∀ u v, U2.head? = some u → V1.getLast? = some v →
      (lessAt less d (e - 1) s = true → R v u = true) ∧ (lessAt less d (e - 1) s = false → R u v = true)) := by
  obtain ⟨uL, uR⟩ := get_cut (s := s) hd (by omega)
  obtain ⟨vL, vR⟩ := get_cut (s := e) (hd.trans (List.append_assoc ..).symm) (by rw [List.length_append, List.length_append]; omega)
  constructor
  · intro u v hu hv
    rw [lessAt_toList less d (vR v hv) (uL u hu)]
    have hb := hB u (List.mem_append_left _ (List.mem_of_getLast? hu)) v (List.mem_append_right _ (List.mem_of_head? hv))
    exact ⟨hA.yes v u hb, hA.no v u hb⟩
  · intro u v hu hv
    rw [lessAt_toList less d (vL v hv) (uR u hu)]
    have hb := hB u (List.mem_append_right _ (List.mem_of_head? hu)) v (List.mem_append_left _ (List.mem_of_getLast? hv))
    exact ⟨hA.yes v u hb, hA.no v u hb⟩

/-- `m - a = 1`: the single left element is inserted into the right run -/
theorem symMerge_first (d : Array α) (a b i : Nat)
    (X V Y : List α) (u : α) (hd : d.toList = X ++ ([u] ++ (V ++ Y))) (hX : X.length = a)
    (hV : a + 1 + V.length = b) (sV : Sorted R V) (hB : ∀ u' ∈ [u], ∀ v ∈ V, B u' v)
    (hi : i = bsearch (fun h => lessAt less d h a) (b - (a + 1)) (a + 1) b) :
    ∃ W, (bubbleUp (i - 1) (i - 1 - a) a d).toList = X ++ (W ++ Y) ∧ W.Perm ([u] ++ V) ∧ Sorted R W := by
  obtain ⟨b1, b2, b3, b4⟩ := bsearch_spec' _ _ (a + 1) b (by omega) (by omega) hi
  obtain ⟨V1, V2, rfl, l1, l2⟩ := cut V i hV b1 b2
  refine ⟨V1 ++ u :: V2, ?_, List.perm_middle, insert_sorted hA.pre sV (fun z hz => ?_) (fun z hz => ?_)⟩
  · rw [bubbleUp_toList X V1 (V2 ++ Y) u (i - 1 - a) d (by rw [hd]; simp only [List.append_assoc,
      List.cons_append, List.nil_append]) hX (by omega) (by omega)]
    simp only [List.append_assoc, List.cons_append]
  · have hp := List.length_pos_of_mem (List.mem_of_getLast? hz)
    exact ((probe_cut hA d (U1 := []) (U2 := [u]) hd hX rfl rfl l1 hB).2 u z rfl hz).1 (b3 (by omega))
  · have hp := List.length_pos_of_mem (List.mem_of_head? hz)
    exact ((probe_cut hA d (U1 := [u]) (U2 := []) hd hX rfl rfl l1 hB).1 u z rfl hz).2 (b4 (by omega))

/-- `b - m = 1`: the single right element is inserted into the left run -/
theorem symMerge_last (d : Array α) (a m i : Nat)
    (X U Y : List α) (v : α) (hd : d.toList = X ++ (U ++ ([v] ++ Y))) (hX : X.length = a)
    (hU : a + U.length = m) (sU : Sorted R U) (hB : ∀ u ∈ U, ∀ v' ∈ [v], B u v')
    (hi : i = bsearch (fun h => !lessAt less d m h) (m - a) a m) :
    ∃ W, (bubbleDown i m d).toList = X ++ (W ++ Y) ∧ W.Perm (U ++ [v]) ∧ Sorted R W := by
  obtain ⟨b1, b2, b3, b4⟩ := bsearch_spec' _ _ a m (by omega) (by omega) hi
  obtain ⟨U1, U2, rfl, l1, l2⟩ := cut U i hU b1 b2
  refine ⟨U1 ++ v :: U2, ?_, List.perm_middle.trans (List.perm_append_singleton v _).symm,
    insert_sorted hA.pre sU (fun z hz => ?_) (fun z hz => ?_)⟩
  · rw [bubbleDown_toList (X ++ U1) U2 Y v d (by rw [hd]; simp only [List.append_assoc, List.cons_append,
      List.nil_append]) (by rw [List.length_append]; omega) l2]
    simp only [List.append_assoc, List.cons_append]
  · have hp := List.length_pos_of_mem (List.mem_of_getLast? hz)
    exact ((probe_cut hA d (V1 := []) (V2 := [v]) hd hX l1 l2 rfl hB).1 z v hz rfl).2 (by simpa using b3 (by omega))
  · have hp := List.length_pos_of_mem (List.mem_of_head? hz)
    exact ((probe_cut hA d (V1 := [v]) (V2 := []) hd hX l1 l2 rfl hB).2 z v hz rfl).1 (by simpa using b4 (by omega))

/-- the general case: the binary search stops at a `start` such that, with `e = mid + m - start`, the pieces `U1` before
    `start` and `V1` before `e` have `mid - a` elements together and are wholly before the pieces `U2`, `V2` — its two boundary
    comparisons say "last of a left piece before first of a right piece" -/
theorem symMerge_cut (d : Array α) (a m b mid : Nat) (X U V Y : List α)
    (hd : d.toList = X ++ (U ++ (V ++ Y))) (hX : X.length = a) (hU : a + U.length = m) (hV : m + V.length = b)
    (sU : Sorted R U) (sV : Sorted R V) (hB : ∀ u ∈ U, ∀ v ∈ V, B u v)
    (hmid : 2 * mid ≤ a + b ∧ a + b < 2 * mid + 2)
    (sr : Nat × Nat) (hsr : sr = if m > mid then (mid + m - b, mid) else (a, m))
    (start e : Nat) (hst : start = bsearch (fun c => !lessAt less d (mid + m - 1 - c) c) (sr.2 - sr.1) sr.1 sr.2)
    (he : e = mid + m - start) :
    ∃ U1 U2 V1 V2, U = U1 ++ U2 ∧ V = V1 ++ V2 ∧ a + U1.length = start ∧ start + U2.length = m ∧
      m + V1.length = e ∧ e + V2.length = b ∧ start + V1.length = mid ∧
      ∀ x ∈ U1 ++ V1, ∀ y ∈ U2 ++ V2, R x y = true := by
  obtain ⟨g0, g⟩ := symMerge_range sr start e (Nat.le.intro hU) (Nat.le.intro hV) hmid hsr
  obtain ⟨b1, b2, b3, b4⟩ := bsearch_spec' _ _ sr.1 sr.2 g0 (by omega) hst
  obtain ⟨he', g1, g2, g3, g4, g5, g6⟩ := g b1 b2 he
  obtain ⟨U1, U2, rfl, l1, l2⟩ := cut U start hU g1 g2
  obtain ⟨V1, V2, rfl, l3, l4⟩ := cut V e hV g3 g4
  obtain ⟨pL, pR⟩ := probe_cut hA d hd hX l1 l2 l3 hB
  refine ⟨U1, U2, V1, V2, rfl, rfl, l1, l2, l3, l4, by omega, cross_le hA.pre sU sV (fun u v hu hv => ?_)
    (fun v u hv hu => ?_)⟩
  · have p1 : a < start := l1 ▸ Nat.lt_add_of_pos_right (List.length_pos_of_mem (List.mem_of_getLast? hu))
    have p2 : e < b := l4 ▸ Nat.lt_add_of_pos_right (List.length_pos_of_mem (List.mem_of_head? hv))
    have b3 := b3 (g5 p1 p2)
    rw [Nat.sub_sub_sub_cancel_right (Nat.zero_lt_of_lt p1), ← he] at b3
    exact (pL u v hu hv).2 (by simpa using b3)
  · have p1 : m < e := l3 ▸ Nat.lt_add_of_pos_right (List.length_pos_of_mem (List.mem_of_getLast? hv))
    have p2 : start < m := l2 ▸ Nat.lt_add_of_pos_right (List.length_pos_of_mem (List.mem_of_head? hu))
    have b4 := b4 (g6 p2 p1)
    rw [Nat.sub_right_comm, ← he] at b4
    exact (pR u v hu hv).1 (by simpa using b4)

/-- `less` only has to agree with `R` on the pairs the merge compares: first argument from the right run, second from the
    left run -/
theorem symMerge_ordered (fuel : Nat) : Spec less R B fuel := by
  induction fuel with
  | zero =>
    intro d a m b X U V Y hd hX hU hV ham hmb hf
    omega
  | succ f ih =>
    intro d a m b X U V Y hd hX hU hV ham hmb hf sU sV hB
    unfold symMerge
    by_cases c1 : m - a = 1
    · rw [if_pos (by simpa using c1)]
      obtain ⟨u, rfl⟩ := List.length_eq_one_iff.1 (show U.length = 1 by omega)
      have hm : m = a + 1 := by omega
      subst hm
      exact symMerge_first hA d a b _ X V Y u hd hX hV sV hB rfl
    · rw [if_neg (by simpa using c1)]
      by_cases c2 : b - m = 1
      · rw [if_pos (by simpa using c2)]
        obtain ⟨v, rfl⟩ := List.length_eq_one_iff.1 (show V.length = 1 by omega)
        exact symMerge_last hA d a m _ X U Y v hd hX hU sU hB rfl
      · rw [if_neg (by simpa using c2)]
        dsimp only
        generalize hmid : (a + b) / 2 = mid
        have hmid' : 2 * mid ≤ a + b ∧ a + b < 2 * mid + 2 := by omega
        clear hmid c1 c2
        have hf' : mid - a ≤ f ∧ b - mid ≤ f := by omega
        obtain ⟨U1, U2, V1, V2, rfl, rfl, l1, l2, l3, l4, l5, hx⟩ :=
          symMerge_cut hA d a m b mid X U V Y hd hX hU hV sU sV hB hmid' _ rfl _ _ rfl rfl
        exact symMerge_step ih d a _ m mid _ b X U1 U2 V1 V2 Y hd hX l1 l2 l3 l4 l5 hf'.1 hf'.2 sU sV hB hx

/-- the inner loop: `x` travels down over the end of the ordered prefix `P` as long as `Less` says so; it ends up `R`-before
    the elements it passed (the last comparison that succeeded) and `R`-after the others (the comparison that failed) -/
theorem insertDown_ordered (d : Array α) (X P Y : List α) (x : α) {a j : Nat}
    (hd : d.toList = X ++ (P ++ x :: Y)) (ha : X.length = a) (hj : a + P.length = j) (sP : Sorted R P)
    (hB : ∀ p ∈ P, B p x) :
    ∃ W, (insertDown less a j d).toList = X ++ (W ++ Y) ∧ W.Perm (P ++ [x]) ∧ Sorted R W := by
  induction j generalizing P Y d with
  | zero =>
    rw [List.eq_nil_of_length_eq_zero (Nat.eq_zero_of_add_eq_zero_left hj)] at hd ⊢
    exact ⟨[x], hd, List.Perm.refl _, List.pairwise_singleton _ _⟩
  | succ j ih =>
    unfold insertDown
    rcases List.eq_nil_or_concat P with rfl | ⟨P, p, rfl⟩
    · rw [List.length_nil] at hj
      rw [if_neg (by simp only [Bool.and_eq_true, decide_eq_true_eq]; exact fun h => absurd h.1 (by omega))]
      exact ⟨[x], hd, List.Perm.refl _, List.pairwise_singleton _ _⟩
    · rw [List.concat_eq_append] at hd hj sP hB ⊢
      rw [List.length_append, List.length_singleton] at hj
      obtain ⟨sP', -, hPp⟩ := List.pairwise_append.1 sP
      obtain ⟨yes, no⟩ := (probe_cut hA d (s := j) (m := j + 1) (e := j + 2) (V1 := [x]) (V2 := []) hd ha (by omega) rfl rfl
        (fun u hu v hv => List.mem_singleton.1 hv ▸ hB u hu)).2 p x rfl rfl
      by_cases c : lessAt less d (j + 1) j = true
      · rw [if_pos (by simp only [Bool.and_eq_true, decide_eq_true_eq]; exact ⟨by omega, c⟩)]
        -- one swap: `X P p x Y ↦ X P x p Y`; the rest of the loop moves `x` into `P`, and all of that is before `p`
        obtain ⟨W, e, pW, sW⟩ := ih (swp d (j + 1) j) P (p :: Y)
          (swp_down d X P Y p x (by rw [hd, List.append_assoc]; rfl) (by omega)) (by omega) sP'
          (fun q hq => hB q (List.mem_append_left _ hq))
        refine ⟨W ++ [p], by rw [e, List.append_assoc]; rfl, ?_, List.pairwise_append.2 ⟨sW, List.pairwise_singleton _ _, ?_⟩⟩
        · refine (pW.append_right [p]).trans ?_
          rw [List.append_assoc, List.append_assoc]
          exact List.perm_append_comm.append_left P
        · intro w hw y hy
          rcases List.mem_append.1 (pW.mem_iff.1 hw) with h | h
          · exact hPp w h y hy
          · rw [List.mem_singleton.1 h, List.mem_singleton.1 hy]; exact yes c
      · rw [if_neg (by simp only [Bool.and_eq_true, decide_eq_true_eq]; exact fun h => c h.2)]
        -- `x` stays: `p` is before it, and so is all of `P`, which is before `p`
        have hpx := no (Bool.not_eq_true _ ▸ c)
        refine ⟨P ++ [p] ++ [x], by rw [hd]; simp only [List.append_assoc, List.cons_append, List.nil_append], List.Perm.refl _,
          List.pairwise_append.2 ⟨sP, List.pairwise_singleton _ _, fun w hw y hy => ?_⟩⟩
        rw [List.mem_singleton.1 hy]
        rcases List.mem_append.1 hw with h | h
        · exact hA.pre.trans _ _ _ (hPp w h p (List.mem_singleton.2 rfl)) hpx
        · rw [List.mem_singleton.1 h]; exact hpx

/-- the outer loop: `P` is the sorted part, a rearrangement of the segment `P0` of the input; `Q` is the rest, still as in the
    input -/
theorem insertionLoop_ordered (a b fuel i : Nat) (d : Array α) (X P P0 Q Y : List α)
    (hd : d.toList = X ++ (P ++ (Q ++ Y))) (hX : X.length = a) (hi : a + P.length = i) (hb : i + Q.length = b)
    (hf : Q.length ≤ fuel) (sP : Sorted R P) (hP : P.Perm P0) (hI : (P0 ++ Q).Pairwise B) :
    ∃ W, (insertionLoop less a b fuel i d).toList = X ++ (W ++ Y) ∧ W.Perm (P0 ++ Q) ∧ Sorted R W := by
  induction fuel generalizing i d P P0 Q with
  | zero =>
    rw [List.eq_nil_of_length_eq_zero (Nat.le_zero.1 hf)] at hd ⊢
    exact ⟨P, hd, by rw [List.append_nil]; exact hP, sP⟩
  | succ f ih =>
    unfold insertionLoop
    cases Q with
    | nil =>
      rw [if_neg (by rw [← hb]; exact Nat.lt_irrefl i)]
      exact ⟨P, hd, by rw [List.append_nil]; exact hP, sP⟩
    | cons x Q =>
      rw [List.length_cons] at hb hf
      rw [if_pos (by omega)]
      obtain ⟨W1, e1, p1, s1⟩ := insertDown_ordered hA d X P (Q ++ Y) x hd hX hi sP
        (fun p hp => (List.pairwise_append.1 hI).2.2 p (hP.mem_iff.1 hp) x List.mem_cons_self)
      have l1 : W1.length = P.length + 1 := by rw [p1.length_eq, List.length_append, List.length_singleton]
      rw [List.append_cons] at hI ⊢
      exact ih (i + 1) _ W1 (P0 ++ [x]) Q e1 (by omega) (by omega) (Nat.le_of_succ_le_succ hf) s1
        (p1.trans (hP.append_right [x])) hI

theorem insertionSort_ordered (d : Array α) (a b : Nat) (X L Y : List α)
    (hd : d.toList = X ++ (L ++ Y)) (hX : X.length = a) (hL : a + L.length = b) (hI : L.Pairwise B) :
    ∃ W, (insertionSort less d a b).toList = X ++ (W ++ Y) ∧ W.Perm L ∧ Sorted R W := by
  unfold insertionSort
  cases L with
  | nil =>
    rw [List.length_nil] at hL
    rw [show b - (a + 1) = 0 by omega]
    exact ⟨[], hd, List.Perm.refl _, List.Pairwise.nil⟩
  | cons x L =>
    rw [List.length_cons] at hL
    exact insertionLoop_ordered hA a b (b - (a + 1)) (a + 1) d X [x] [x] L Y hd hX rfl (by omega) (by omega)
      (List.pairwise_singleton _ _) (List.Perm.refl _) hI

theorem blocksLoop_ordered (n bs fuel a b : Nat) (d : Array α) (X L Y : List α)
    (hd : d.toList = X ++ (L ++ Y)) (hX : X.length = a) (hL : a + L.length = n) (hbs : 1 ≤ bs) (hab : b = a + bs)
    (hf : n + 1 - b < fuel) (hI : L.Pairwise B) :
    ∃ L', (blocksLoop less n bs fuel a b d).toList = X ++ (L' ++ Y) ∧ L'.Perm L ∧ Runs R B bs L' := by
  induction fuel generalizing a b d X L with
  | zero => omega
  | succ f ih =>
    subst hab hX
    unfold blocksLoop
    by_cases hle : X.length + bs ≤ n
    · rw [if_pos hle]
      obtain ⟨U, V, rfl, hU⟩ := cut_left L (n := bs) (by omega)
      rw [List.length_append] at hL
      obtain ⟨iU, iV, iUV⟩ := List.pairwise_append.mp hI
      obtain ⟨W, e1, p1, s1⟩ := insertionSort_ordered hA d X.length (X.length + bs) X U (V ++ Y)
        (by rw [hd, List.append_assoc]) rfl (by rw [hU]) iU
      have l1 : W.length = bs := by rw [p1.length_eq, hU]
      obtain ⟨V', e2, p2, r2⟩ := ih (X.length + bs) _ _ (X ++ W) V (by rw [e1, List.append_assoc])
        (by rw [List.length_append, l1]) (by omega) rfl (by omega) iV
      obtain ⟨p, r⟩ := Runs.glue p1 p2 l1 s1 iUV r2
      exact ⟨W ++ V', by rw [e2]; simp only [List.append_assoc], p, r⟩
    · rw [if_neg hle]
      obtain ⟨W, e1, p1, s1⟩ := insertionSort_ordered hA d X.length n X L Y hd rfl hL hI
      exact ⟨W, e1, p1, .last W (by rw [p1.length_eq]; omega) s1⟩

theorem mergePass_ordered (n bs fuel a b : Nat) (d : Array α) (X L Y : List α)
    (hd : d.toList = X ++ (L ++ Y)) (hX : X.length = a) (hL : a + L.length = n) (hbs : 1 ≤ bs) (hab : b = a + 2 * bs)
    (hf : n + 1 - b < fuel) (h : Runs R B bs L) :
    ∃ L', (mergePass less n bs fuel a b d).toList = X ++ (L' ++ Y) ∧ L'.Perm L ∧ Runs R B (2 * bs) L' := by
  induction fuel generalizing a b d X L with
  | zero => omega
  | succ f ih =>
    subst hab hX
    unfold mergePass
    by_cases hle : X.length + 2 * bs ≤ n
    · rw [if_pos hle]
      obtain ⟨U1, T, rfl, l1, s1, b1, r1⟩ := h.uncons (by omega)
      rw [List.length_append] at hL
      obtain ⟨U2, V, rfl, l2, s2, b2, r2⟩ := r1.uncons (by omega)
      rw [List.length_append] at hL
      obtain ⟨W, e1, p1, sW⟩ := symMerge_ordered hA _ d X.length (X.length + bs) (X.length + 2 * bs) X U1 U2 (V ++ Y)
        (by rw [hd]; simp only [List.append_assoc]) rfl (by rw [l1]) (by omega) (by omega) (by omega) (Nat.le_refl _)
        s1 s2 (fun u hu v hv => b1 u hu v (List.mem_append_left _ hv))
      have lW : W.length = 2 * bs := by rw [p1.length_eq, List.length_append]; omega
      obtain ⟨V', e2, p2, r3⟩ := ih (X.length + 2 * bs) _ _ (X ++ W) V (by rw [e1, List.append_assoc])
        (by rw [List.length_append, lW]) (by omega) rfl (by omega) r2
      -- the merged run came earlier than everything after it: both halves did
      have bUV : ∀ u ∈ U1 ++ U2, ∀ v ∈ V, B u v :=
        List.forall_mem_append.2 ⟨fun u hu v hv => b1 u hu v (List.mem_append_right _ hv), b2⟩
      obtain ⟨p, r⟩ := Runs.glue p1 p2 lW sW bUV r3
      exact ⟨W ++ V', by rw [e2]; simp only [List.append_assoc], by rwa [List.append_assoc] at p, r⟩
    · rw [if_neg hle]
      dsimp only
      by_cases hm : X.length + bs < n
      · rw [if_pos hm]
        obtain ⟨U, V, rfl, l1, s1, b1, r1⟩ := h.uncons (by omega)
        rw [List.length_append] at hL
        obtain ⟨W, e1, p1, sW⟩ := symMerge_ordered hA _ d X.length (X.length + bs) n X U V Y
          (by rw [hd, List.append_assoc]) rfl (by rw [l1]) (by omega) (by omega) hm (Nat.le_refl _) s1
          (r1.final (by omega)) b1
        exact ⟨W, e1, p1, .last W (by rw [p1.length_eq, List.length_append]; omega) sW⟩
      · rw [if_neg hm]
        exact ⟨L, hd, List.Perm.refl _, .last L (by omega) (h.final (by omega))⟩

theorem mergeLoop_ordered (n fuel bs : Nat) (d : Array α) (L Y : List α)
    (hd : d.toList = L ++ Y) (hL : L.length = n) (hbs : 1 ≤ bs) (hf : n ≤ bs + fuel) (h : Runs R B bs L) :
    ∃ L', (mergeLoop less n fuel bs d).toList = L' ++ Y ∧ L'.Perm L ∧ Sorted R L' := by
  induction fuel generalizing bs d L with
  | zero => exact ⟨L, hd, List.Perm.refl _, h.final (by omega)⟩
  | succ f ih =>
    unfold mergeLoop
    by_cases hlt : bs < n
    · rw [if_pos hlt]
      obtain ⟨L1, e1, p1, r1⟩ := mergePass_ordered hA n bs n 0 (2 * bs) d [] L Y hd rfl (by rw [Nat.zero_add]; exact hL) hbs
        (Nat.zero_add _).symm (by omega) h
      rw [Nat.mul_comm bs 2]
      obtain ⟨L2, e2, p2, s2⟩ := ih (2 * bs) _ L1 e1 (by rw [p1.length_eq, hL]) (by omega) (by omega) r1
      exact ⟨L2, e2, p2.trans p1, s2⟩
    · rw [if_neg hlt]
      exact ⟨L, hd, List.Perm.refl _, h.final (by omega)⟩

theorem stable_ordered (d : Array α) (n : Nat) (L Y : List α)
    (hd : d.toList = L ++ Y) (hL : L.length = n) (hI : L.Pairwise B) :
    ∃ L', (stable less d n).toList = L' ++ Y ∧ L'.Perm L ∧ Sorted R L' := by
  unfold stable
  by_cases h0 : n = 0
  · subst h0
    have : L = [] := List.eq_nil_of_length_eq_zero hL
    subst this
    exact ⟨[], hd, List.Perm.refl _, List.Pairwise.nil⟩
  · obtain ⟨L1, e1, p1, r1⟩ := blocksLoop_ordered hA n blockSize n 0 blockSize d [] L Y hd rfl (by omega) (by decide)
      (by omega) (by unfold blockSize; omega) hI
    obtain ⟨L2, e2, p2, s2⟩ := mergeLoop_ordered hA n n blockSize _ L1 Y e1 (by rw [p1.length_eq, hL]) (by decide)
      (by unfold blockSize; omega) r1
    exact ⟨L2, e2, p2.trans p1, s2⟩

end

theorem goStable_agree (hA : Agree less R B) (l : List α) (hl : l.Pairwise B) :
    (goStable less l).Perm l ∧ Sorted R (goStable less l) := by
  obtain ⟨L', e, p, s⟩ := stable_ordered hA l.toArray l.length l [] (List.append_nil l).symm rfl hl
  unfold goStable
  rw [e, List.append_nil]
  exact ⟨p, s⟩

/-- **`sort.Stable` permutes**, whatever `Less` is -/
theorem goStable_perm (less : α → α → Bool) (l : List α) : (goStable less l).Perm l :=
  (goStable_agree (R := fun _ _ => true) (B := fun _ _ => True)
    ⟨⟨fun _ _ => Or.inl rfl, fun _ _ _ _ _ => rfl⟩, fun _ _ _ _ => rfl, fun _ _ _ _ => rfl⟩ l
    (List.pairwise_of_forall fun _ _ => trivial)).1

/-- **the order of `sort.Stable`'s output**: if `less` agrees with the total preorder `R` whenever its first argument stood
    after its second in the input (`B`), the output is `R`-ordered — whatever `less` says on the other pairs -/
theorem goStable_ordered (less R : α → α → Bool) (B : α → α → Prop) (hR : TotalPreorder R)
    (hcmp : ∀ x y, B y x → less x y = R x y) (l : List α) (hl : l.Pairwise B) :
    (goStable less l).Pairwise (fun a b => R a b = true) :=
  (goStable_agree ⟨hR, fun x y b h => by rw [← hcmp x y b]; exact h,
    fun x y b h => hR.of_false (by rw [← hcmp x y b]; exact h)⟩ l hl).2

/-- **`sort.Stable` sorts** when `Less` is the non-strict version of a total preorder: the case `R = less`, with no
    condition on where the compared elements stood -/
theorem goStable_sorted {α : Type} (less : α → α → Bool) (hT : TotalPreorder less) (l : List α) :
    (goStable less l).Pairwise (fun a b => less a b = true) :=
  goStable_ordered less less (fun _ _ => True) hT (fun _ _ _ => rfl) l (List.pairwise_of_forall (fun _ _ => trivial))

theorem fuzzyStable_perm (ms : List (Nat × Int)) : (fuzzyStable ms).Perm ms := goStable_perm _ ms

theorem fuzzyLess_totalPreorder : TotalPreorder (fun a b : Nat × Int => decide (a.2 ≥ b.2)) := by
  constructor
  · intro x y
    simp only [ge_iff_le, decide_eq_true_eq]
    omega
  · intro x y z
    simp only [ge_iff_le, decide_eq_true_eq]
    omega

/-- **the fuzzy library's final sort sorts**: although its `Less` (`Score >=`) is not a strict order, the result of
    Go's `sort.Stable` is ordered by non-increasing score -/
theorem fuzzyStable_sorted (ms : List (Nat × Int)) : (fuzzyStable ms).Pairwise (fun a b => a.2 ≥ b.2) := by
  have := goStable_sorted _ fuzzyLess_totalPreorder ms
  exact this.imp (fun h => by simpa using h)

/-- the contract the search theorems ask of the library's sort: a permutation, ordered by non-increasing score -/
theorem fuzzyStable_contract (ms : List (Nat × Int)) :
    (fuzzyStable ms).Perm ms ∧ (fuzzyStable ms).Pairwise (fun a b => a.2 ≥ b.2) :=
  ⟨fuzzyStable_perm ms, fuzzyStable_sorted ms⟩

end Wtf.GoSort
