import WtfModel.Model.Retry

/-!
  For C15.  What the retry classifier looks at: of a classified OS error `shouldRetry` sees the errno and the Type the
  decision table gave it, `personalAbsent` the errno alone (`shouldRetry_app_os`, `personalAbsent_app_os`); the table
  itself is evaluated only on the three messages for which that leaves a question.  The loader in terms of what reading
  the two files gives (`loadWithPersonal_eq`).  One specification of the retry loop, `retryLoop_spec`: at which attempt
  it stops, what it reports, before which attempts it slept.
-/
namespace Wtf.Retry
open Wtf.Gen

theorem classify_keeps_cause (c : Cause) : ∃ t, classifyLoadError (some c) = .app t (.os c) :=
  ⟨_, rfl⟩

theorem matches_notExist (c : Cause) : c.matches "notExist" = decide (c = .notExist) := by
  simp only [Cause.matches, String.reduceBEq, Bool.true_and, Bool.false_and, Bool.or_false]; rfl

theorem matches_permission (c : Cause) : c.matches "permission" = decide (c = .permission) := by
  simp only [Cause.matches, String.reduceBEq, Bool.true_and, Bool.false_and, Bool.false_or]; rfl

theorem shouldRetry_app_os (t : String) (c : Cause) :
    shouldRetry (.app t (.os c)) =
      (!(decide (c = .notExist) || decide (c = .permission)) && !Recovery.noRetryTypes.contains t) := by
  simp [shouldRetry, Recovery.noRetrySentinels, errorsIs, matches_notExist, matches_permission]

theorem personalAbsent_app_os (t : String) (c : Cause) :
    personalAbsent (.app t (.os c)) = decide (c = .notExist) := by
  simp [personalAbsent, osIs, matches_notExist]

theorem retry_of_database {c : Cause} (h1 : c ≠ .notExist) (h2 : c ≠ .permission)
    (ht : classifyType c.message = "database") : shouldRetry (classifyLoadError (some c)) = true := by
  have hd : Recovery.noRetryTypes.contains "database" = false := by decide +kernel
  rw [classifyLoadError, shouldRetry_app_os, ht, hd, decide_eq_false h1, decide_eq_false h2]; rfl

theorem noRetry_notExist : shouldRetry (classifyLoadError (some .notExist)) = false := by
  rw [classifyLoadError, shouldRetry_app_os]; rfl
theorem noRetry_permission : shouldRetry (classifyLoadError (some .permission)) = false := by
  rw [classifyLoadError, shouldRetry_app_os]; rfl

/-- the decision table on the three messages for which it matters, in one statement: the kernel decodes the
    table's needles once for all of them -/
theorem classify_database : classifyType Cause.isDirectory.message = "database" ∧
    classifyType Cause.parse.message = "database" ∧ classifyType Cause.other.message = "database" := by decide +kernel

theorem retry_isDirectory : shouldRetry (classifyLoadError (some .isDirectory)) = true :=
  retry_of_database nofun nofun classify_database.1
theorem retry_parse : shouldRetry (classifyLoadError (some .parse)) = true :=
  retry_of_database nofun nofun classify_database.2.1
theorem retry_other : shouldRetry (classifyLoadError (some .other)) = true :=
  retry_of_database nofun nofun classify_database.2.2

def FileState.ok : FileState → Option (List Cmd)
  | .good cs => some cs
  | _ => none

/-- files whose failure is not worth a second look (property: "tried once") -/
def FileState.hopeless (f : FileState) : Prop := f = .missing ∨ f = .denied

def FileState.retryable (f : FileState) : Prop := f = .directory ∨ f = .malformed ∨ f = .other

def Retryable (x : Attempt) : Prop := ∃ e, x = .error e ∧ shouldRetry e = true

theorem not_retryable_ok {x : Attempt} {db : List Cmd} (h : x = .ok db) : ¬ Retryable x := by
  rintro ⟨e, he, _⟩; rw [h] at he; cases he

theorem not_retryable_stop {x : Attempt} {e : Err} (h : x = .error e) (hs : shouldRetry e = false) : ¬ Retryable x := by
  rintro ⟨e', he', hs'⟩; rw [h] at he'; cases he'; rw [hs] at hs'; cases hs'

theorem loadDatabase_good (cs : List Cmd) : loadDatabase (.good cs) = .ok cs := rfl

theorem loadWithPersonal_eq (main personal : FileState) :
    loadWithPersonal main personal =
      match readAndParse main, readAndParse personal with
      | .error c, _ => .error (classifyLoadError (some c))
      | .ok m, .ok p => .ok (m ++ p)
      | .ok m, .error c => if c = .notExist then .ok m else .error (classifyLoadError (some c)) := by
  unfold loadWithPersonal loadDatabase
  cases readAndParse main with
  | error c => rfl
  | ok m =>
    cases readAndParse personal with
    | ok p => rfl
    | error c => simp only [classifyLoadError, personalAbsent_app_os, decide_eq_true_eq]

theorem readAndParse_ok_iff (f : FileState) (cs : List Cmd) : readAndParse f = .ok cs ↔ f = .good cs := by
  cases f <;> simp [readAndParse]

theorem lwp_good_good (m p : List Cmd) : loadWithPersonal (.good m) (.good p) = .ok (m ++ p) := rfl

theorem lwp_good_missing (m : List Cmd) : loadWithPersonal (.good m) .missing = .ok m :=
  (loadWithPersonal_eq _ _).trans (if_pos rfl)

theorem lwp_good_error (m : List Cmd) {personal : FileState} {c : Cause} (h : readAndParse personal = .error c)
    (hc : c ≠ .notExist) : loadWithPersonal (.good m) personal = .error (classifyLoadError (some c)) := by
  rw [loadWithPersonal_eq, h]; exact if_neg hc

theorem lwp_main_hopeless {main : FileState} (h : main.hopeless) (personal : FileState) :
    ∃ e, loadWithPersonal main personal = .error e ∧ shouldRetry e = false := by
  rcases h with h | h <;> subst h
  · exact ⟨_, rfl, noRetry_notExist⟩
  · exact ⟨_, rfl, noRetry_permission⟩

theorem lwp_personal_denied (m : List Cmd) :
    ∃ e, loadWithPersonal (.good m) .denied = .error e ∧ shouldRetry e = false :=
  ⟨_, lwp_good_error m rfl nofun, noRetry_permission⟩

theorem retryable_cause {f : FileState} (h : f.retryable) :
    ∃ c, readAndParse f = .error c ∧ c ≠ .notExist ∧ shouldRetry (classifyLoadError (some c)) = true := by
  rcases h with rfl | rfl | rfl
  · exact ⟨_, rfl, nofun, retry_isDirectory⟩
  · exact ⟨_, rfl, nofun, retry_parse⟩
  · exact ⟨_, rfl, nofun, retry_other⟩

theorem lwp_retryable {main personal : FileState}
    (h : main.retryable ∨ (∃ m, main = .good m) ∧ personal.retryable) : Retryable (loadWithPersonal main personal) := by
  rcases h with h | ⟨⟨m, rfl⟩, h⟩
  · obtain ⟨c, hc, _, hs⟩ := retryable_cause h
    exact ⟨_, by rw [loadWithPersonal_eq, hc], hs⟩
  · obtain ⟨c, hc, hne, hs⟩ := retryable_cause h
    exact ⟨_, lwp_good_error m hc hne, hs⟩

theorem lwp_ok_iff (main personal : FileState) (db : List Cmd) :
    loadWithPersonal main personal = .ok db ↔
      ∃ m, main = .good m ∧ ((∃ p, personal = .good p ∧ db = m ++ p) ∨ (personal = .missing ∧ db = m)) := by
  rw [loadWithPersonal_eq]
  cases hm : readAndParse main with
  | error c =>
    refine ⟨nofun, fun ⟨m, h, _⟩ => ?_⟩
    rw [(readAndParse_ok_iff main m).mpr h] at hm; cases hm
  | ok m =>
    rw [readAndParse_ok_iff] at hm
    cases hp : readAndParse personal with
    | ok p =>
      rw [readAndParse_ok_iff] at hp
      subst hm hp
      simp [eq_comm]
    | error c =>
      subst hm
      cases personal <;> cases hp <;> simp [eq_comm]

def Reports : Attempt → Option (List Cmd) → Option Err → Prop
  | .ok d, db, err => db = some d ∧ err = none
  | .error e, db, err => db = none ∧ err = some e

theorem retryLoop_zero (cfg : Cfg) (f : Nat → Attempt) (a : Nat) (last : Option Err) :
    retryLoop cfg f 0 a last = { db := none, err := last, attempts := a - 1, delays := [] } := rfl

section
variable (cfg : Cfg) {f : Nat → Attempt} {a : Nat}

theorem retryLoop_retry {e : Err} (h : f a = .error e) (hs : shouldRetry e = true) (r : Nat) (last : Option Err) :
    let o := retryLoop cfg f (r + 1) a last
    let rest := retryLoop cfg f r (a + 1) (some e)
    o.db = rest.db ∧ o.err = rest.err ∧ o.attempts = rest.attempts ∧
    o.delays = if (a : Int) < cfg.maxAttempts then delayNs cfg a :: rest.delays else rest.delays := by
  simp only [retryLoop, h, hs, ↓reduceIte]
  split <;> simp

theorem retryLoop_stop (r : Nat) (last : Option Err) (h : r = 0 ∨ ¬ Retryable (f a)) :
    let o := retryLoop cfg f (r + 1) a last
    o.attempts = a ∧ ((a : Int) + r = cfg.maxAttempts → o.delays = []) ∧ Reports (f a) o.db o.err := by
  cases hf : f a with
  | ok db => simp [retryLoop, hf, Reports]
  | error e =>
    cases hs : shouldRetry e with
    | false => simp [retryLoop, hf, hs, Reports]
    | true =>
      obtain rfl := h.resolve_right fun h' => h' ⟨e, hf, hs⟩
      obtain ⟨e1, e2, e3, e4⟩ := retryLoop_retry cfg hf hs 0 last
      rw [retryLoop_zero] at e1 e2 e3 e4
      exact ⟨e3, fun hm => by rw [e4, if_neg (by omega)], by rw [e1, e2]; exact ⟨rfl, rfl⟩⟩
end

/-- What the loop does once entered with `r + 1` attempts left, the next one being number `a`: it stops at
    the first attempt in `a, …, a + r` that is not a retryable failure, or at `a + r`; it reports that attempt,
    and has slept before every later attempt it made. -/
structure LoopSpec (cfg : Cfg) (f : Nat → Attempt) (a r : Nat) (o : Outcome) : Prop where
  ge : a ≤ o.attempts
  le : o.attempts ≤ a + r
  before : ∀ n, a ≤ n → n < o.attempts → Retryable (f n)
  stop : o.attempts = a + r ∨ ¬ Retryable (f o.attempts)
  reports : Reports (f o.attempts) o.db o.err
  /-- for the loop as `loadWithRetry` starts it: the last permitted attempt is not followed by a sleep -/
  delays : (a : Int) + r = cfg.maxAttempts → o.delays = (List.range' a (o.attempts - a)).map (delayNs cfg)

theorem LoopSpec.of_stop {cfg : Cfg} {f : Nat → Attempt} {a : Nat} (r : Nat) (last : Option Err)
    (h : r = 0 ∨ ¬ Retryable (f a)) : LoopSpec cfg f a r (retryLoop cfg f (r + 1) a last) := by
  obtain ⟨h1, h2, h3⟩ := retryLoop_stop cfg r last h
  exact
    { ge := by rw [h1]; exact Nat.le_refl _
      le := by rw [h1]; exact Nat.le_add_right _ _
      before := fun n h4 h5 => by rw [h1] at h5; omega
      stop := by rw [h1]; exact h.imp (fun h => by rw [h]; rfl) id
      reports := by rw [h1]; exact h3
      delays := fun hm => by rw [h1, h2 hm, Nat.sub_self]; rfl }

theorem retryLoop_spec (cfg : Cfg) (f : Nat → Attempt) : ∀ (r a : Nat) (last : Option Err),
    LoopSpec cfg f a r (retryLoop cfg f (r + 1) a last) := by
  intro r
  induction r with
  | zero => intro a last; exact .of_stop 0 last (Or.inl rfl)
  | succ r ih =>
    intro a last
    by_cases hr : Retryable (f a)
    · obtain ⟨e, he, hs⟩ := hr
      obtain ⟨e1, e2, e3, e4⟩ := retryLoop_retry cfg he hs (r + 1) last
      have ih := ih (a + 1) (some e)
      exact
        { ge := by rw [e3]; exact Nat.le_of_succ_le ih.ge
          le := by rw [e3]; have := ih.le; omega
          before := fun n hn hlt => by
            rw [e3] at hlt
            rcases Nat.eq_or_lt_of_le hn with rfl | hn'
            · exact ⟨e, he, hs⟩
            · exact ih.before n hn' hlt
          stop := by rw [e3]; exact ih.stop.imp (fun h => by omega) id
          reports := by rw [e1, e2, e3]; exact ih.reports
          delays := fun hm => by
            have hge := ih.ge
            rw [e4, e3, if_pos (by omega), ih.delays (by omega),
              show (retryLoop cfg f (r + 1) (a + 1) (some e)).attempts - a =
                (retryLoop cfg f (r + 1) (a + 1) (some e)).attempts - (a + 1) + 1 by omega,
              List.range'_succ, List.map_cons] }
    · exact .of_stop (r + 1) last (Or.inr hr)

end Wtf.Retry
