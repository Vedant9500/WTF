import WtfModel.Proofs.C03Search
/-
  Lemmas about the term pipeline of SearchUniversal for C06: the NLP merge (`enhanceTerms`) only appends; the
  candidate set (keys of the score map) is the set of gate-passing documents with a posting of a search term, so
  it grows with the term list as a set; with the typo fallback off and a limit of at least the database size the
  answer consists exactly of the candidates.  No assumption on the score type or on any `Tuning` parameter.
-/
namespace Wtf.Search
open Text Index Filters ScoreOps

variable {S : Type} [ScoreOps S]
variable (T : Tuning S) (db : Db) (q : Bytes) (o : Opts S)

theorem enhanceTerms_prefix (terms : List Token) (enh : List Bytes) : terms <+: enhanceTerms terms enh :=
  List.foldlRecOn (motive := fun ts => terms <+: ts) enh _ (List.prefix_refl _) fun ts h e _ => by
    split
    · exact h.trans (List.prefix_append ts [e])
    · exact h

theorem length_enhanceTerms_le (terms : List Token) (enh : List Bytes) :
    (enhanceTerms terms enh).length ≤ max terms.length appendCap :=
  List.foldlRecOn (motive := fun ts : List Token => ts.length ≤ max terms.length appendCap) enh _ (Nat.le_max_left _ _)
    fun ts h e _ => by
      split
      · -- a term is appended only below `appendCap`
        rename_i hc
        have : ts.length < appendCap := of_decide_eq_true (Bool.and_eq_true_iff.mp hc).2
        rw [List.length_append, List.length_singleton]; omega
      · exact h

theorem take_subset_take_of_prefix {α : Type} {l₁ l₂ : List α} (h : l₁ <+: l₂) (n : Nat) : l₁.take n ⊆ l₂.take n := by
  obtain ⟨r, rfl⟩ := h
  rw [List.take_append]
  exact List.subset_append_left _ _

/-- term `t` contributes document `k`: it has a posting for `k`, its idf passes the floor, and `k` passes the gate -/
def Hits (T : Tuning S) (db : Db) (idx : Index) (o : Opts S) (t : Token) (k : Nat) : Prop :=
  ∃ ps, look idx.postings t = some ps ∧ lt (T.idf idx.n ((look idx.df t).getD 0)) T.params.minIDF = false ∧
    ∃ p ∈ ps, p.doc = k ∧ ∃ c, db[k]? = some c ∧ passes T.ri T.host o.filter c = true

/-- the NLP analysis (`pq`) changes weights only: it does not occur on the right -/
theorem mem_keys_initialScores (idx : Index) (o : Opts S) (pq : Option (NlpOut S))
    (terms : List Token) (k : Nat) :
    k ∈ (initialScores T db idx o pq terms).map (·.1) ↔ ∃ t ∈ terms, Hits T db idx o t k := by
  rw [initialScores_eq_hits]
  -- a key of the score map is the document of a posting that took part
  refine (foldl_or_exists (fun m (h : Token × Posting) => addScore m h.2.doc (contrib T idx (termBoosts o pq) h.1 h.2))
    (fun m => k ∈ m.map (·.1)) (fun h => h.2.doc = k) (fun m h => by rw [mem_keys_addScore, or_comm, eq_comm]) _ _).trans ?_
  simp only [List.map_nil, List.not_mem_nil, false_or, Hits]
  constructor
  · rintro ⟨⟨t, p⟩, hh, rfl⟩
    obtain ⟨ht, hidf, ⟨ps, hl, hp⟩, he⟩ := mem_hits.mp hh
    exact ⟨t, ht, ps, hl, hidf, p, hp, rfl, he⟩
  · rintro ⟨t, ht, ps, hl, hidf, p, hp, rfl, he⟩
    exact ⟨(t, p), mem_hits.mpr ⟨ht, hidf, ⟨ps, hl, hp⟩, he⟩, rfl⟩

theorem keys_initialScores_mono (T : Tuning S) (db : Db) (idx : Index) (o o' : Opts S) (pq pq' : Option (NlpOut S))
    {terms terms' : List Token} (hsub : terms ⊆ terms') (hf : o.filter = o'.filter) {k : Nat}
    (hk : k ∈ (initialScores T db idx o pq terms).map (·.1)) : k ∈ (initialScores T db idx o' pq' terms').map (·.1) := by
  rw [mem_keys_initialScores] at hk ⊢
  obtain ⟨t, ht, ps, h1, h2, p, hp, hd, c, hc, hpass⟩ := hk
  exact ⟨t, hsub ht, ps, h1, h2, p, hp, hd, c, hc, by rw [← hf]; exact hpass⟩

/-- ids of an answer (`[]` for the typo-fallback panic value, which cannot occur with the fallback off) -/
def ids (r : Except Fuzzy.Panic (List (Nat × S))) : List Nat :=
  match r with
  | .ok l => l.map (·.1)
  | .error _ => []

def searchTerms (T : Tuning S) (db : Db) (q : Bytes) (o : Opts S) : List Token :=
  selectTopTerms T (build db) (termsOf T q o) (effCap o)

theorem mem_ids_search (hf : o.useFuzzy = false)
    (hlim : db.length ≤ effLimit o) (d : Nat) :
    d ∈ ids (search T db q o) ↔ ∃ t ∈ searchTerms T db q o, Hits T db (build db) o t d := by
  obtain ⟨res, h1, hp⟩ := search_ids_perm T db q o hf hlim
  rw [h1, ids, hp.mem_iff, scoresOf, mem_keys_initialScores]
  rfl

omit [ScoreOps S] in
theorem tokenize_prefix_termsOf : tokenize (T.normQ q) <+: termsOf T q o := by
  unfold termsOf
  cases pqOf T q o with
  | none => exact List.prefix_refl _
  | some n => exact enhanceTerms_prefix _ _

end Wtf.Search
