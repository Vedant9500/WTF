import WtfModel.Proofs.C03Index
import WtfModel.Proofs.C01Score
import WtfModel.Proofs.C01Fuzzy
import WtfModel.Proofs.FuzzyFind
import WtfModel.Proofs.SearchPaths
/-
  C01 for the model of SearchUniversal: the hypotheses on the parameters and the assembly of the per-stage
  lemmas along the decomposition of `search` (Proofs/SearchPaths.lean).  Core Lean only.
-/
namespace Wtf.Search
open Index ScoreOps

variable {S : Type} [ScoreOps S]
variable (db : Db)

/-- `idx.df[t]` is the number of documents containing `t` (`buildSpec_build`), hence at most `idx.N`:
    idf is only evaluated where the BM25 formula is the logarithm of a number ≥ 1 -/
theorem dfLeN_build : DfLeN (build db) := by
  intro t k hk
  have e := (buildSpec_build db).df_getD t
  rw [hk, Option.getD_some] at e
  rw [e, (buildSpec_build db).n]
  exact List.length_filter_le _ _

/-- `idf(N, df) ≥ 0` whenever `df ≤ N`.  Discharged by `math.Log` of a number ≥ 1:
    `(N-df+½)/(df+½)+1 ≥ 1` for `df ≤ N`; proved for the real-valued formula in `Proofs/C01Idf.lean`
    (`bm25_idf_real_nonneg`), checked on the real floats by the monitor (`oracle-negative-factor`). -/
def IdfNonneg (T : Tuning S) : Prop := ∀ n df, df ≤ n → lt (T.idf n df) (zero : S) = false

/-- Everything the C01 theorems assume about the parameters of the model. -/
structure TuningWF [ScoreLaws S] (T : Tuning S) : Prop where
  /-- BM25F parameters sane; `genParams_wf` discharges it for the regenerated `defaultParams()` -/
  params : ParamsWF T.params
  idf : IdfNonneg T
  /-- `calculateIntentBoost` / `calculateBoostForCommand` are products / sums of positive constants;
      monitored on the real values of every generated case (`oracle-negative-factor`) -/
  nlp : ∀ q, (T.nlp q).FactorsNonneg
  /-- TF-IDF cosine similarities are non-negative (same monitor) -/
  tfidf : TfidfNonneg T
  fuzzySort : FuzzySortOK T

theorem fuzzySearch_post [ScoreLaws S] {T : Tuning S} (hF : FuzzySortOK T) {db : Db} {nq : Bytes} {o : Opts S}
    {limit : Nat} {r : List (Nat × S)} (h : fuzzySearch T db nq o limit = .ok r) : Post db.length limit r := by
  obtain ⟨ms, hms, rfl⟩ := fuzzySearch_inv h
  obtain ⟨hperm, hsorted⟩ := hF ms
  have hsub := fuzzyKept_sublist T db o limit ms
  -- the matcher reports each target once, the library's sort permutes, the fallback selects in order
  have hnd : ((fuzzyKept T db o limit ms).map (·.1)).Nodup :=
    (hsub.map _).nodup ((hperm.map _).nodup_iff.mpr ((Fuzzy.findNoSort_increasing _ _ hms).imp Nat.ne_of_lt))
  have hr := ranked_map (fun x : Nat × Int => x.1) (fun x : Nat × Int => (normalizeFuzzy x.2 : S)) hnd
    (fun x hx => eligible_lt (kept_of_mem_fuzzyKept hx).1) (fun _ _ => normalizeFuzzy_nonneg _)
    ((hsorted.sublist hsub).imp (fun hab => normalizeFuzzy_mono hab))
  refine ⟨?_, hr.real, hr.nodup, hr.sorted, hr.nonneg⟩
  rw [List.length_map, fuzzyKept]
  exact List.length_take_le _ _

theorem lexicalTail_post [ScoreLaws S] {T : Tuning S} {db : Db} {o : Opts S} (nq : Bytes) {pq : Option (NlpOut S)}
    (limit : Nat) {scores : List (Nat × S)}
    (hpq : ∀ n, pq = some n → n.FactorsNonneg) (hT : TfidfNonneg T)
    (hinv : ScoresInv T db o scores) (hnn : AllNonneg scores) :
    Post db.length limit (lexicalTail T db o nq pq limit scores) := by
  have r0 := (cand_collect hpq hinv hnn).sortDesc
  have r1 : Ranked db.length (rerankOpt T o nq limit (sortDesc (·.2) (collect T db o pq scores))) := by
    unfold rerankOpt
    split
    · exact r0.rerank hT nq limit
    · exact r0
  have r2 : Ranked db.length (cascadeOpt pq (rerankOpt T o nq limit (sortDesc (·.2) (collect T db o pq scores)))) := by
    cases pq with
    | none => exact r1
    | some n => exact r1.cascade (hpq n rfl)
  exact r2.post_take limit

/-- C01 for the model of `SearchUniversal`, every path. -/
theorem search_post [ScoreLaws S] {T : Tuning S} (hT : TuningWF T) {db : Db} {q : Bytes} {o : Opts S}
    {r : List (Nat × S)} (h : search T db q o = .ok r) : Post db.length (effLimit o) r := by
  rcases search_ok h with hl | ⟨_, hf⟩
  · obtain ⟨_, rfl⟩ := lexical_some hl
    apply lexicalTail_post
    · exact fun n hn => pqOf_eq_some hn ▸ hT.nlp _
    · exact hT.tfidf
    · exact initialScores_inv ..
    · exact initialScores_nonneg T hT.params db (build db) (dfLeN_build db)
        (fun df hdf => hT.idf _ df hdf) o _ _
  · rcases fallback_ok hf with ⟨_, hz⟩ | ⟨_, rfl⟩
    · exact fuzzySearch_post hT.fuzzySort hz
    · exact post_nil _ _

end Wtf.Search
