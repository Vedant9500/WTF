/-
  C16, the parser half: `parse (print v) = some v` for the executable JSON codec of the history file
  (`Model/HistoryJson.lean`), for every well-formed document (`WFJ`), given the facts about the decimal
  printer (`DigitFacts`, proved in `Proofs/HistoryJsonTime.lean`).  Arrays and objects go through one loop lemma
  (`Round`, `loop_join`); the length of the printed text is the fuel measure.  Core Lean only.
-/
import WtfModel.Proofs.HistoryJsonBytes
namespace Wtf.History.Json

theorem scanString_quote (r acc : Bytes) : scanString (34 :: r) acc = some (acc.reverse, r) := by
  rw [scanString.eq_def]; simp

theorem scanString_plain {a : UInt8} {r acc : Bytes} (h1 : ¬ (a == 34 || a < 32) = true) (h2 : ¬ (a == 92) = true) :
    scanString (a :: r) acc = scanString r (a :: acc) := by
  simp only [Bool.or_eq_true, decide_eq_true_eq, not_or] at h1
  rw [scanString.eq_def]; simp [h1, h2]

theorem scanString_u {h1 h2 h3 h4 : UInt8} {r acc : Bytes} (k : (isHex h1 && isHex h2 && isHex h3 && isHex h4) = true) :
    scanString (92 :: 117 :: h1 :: h2 :: h3 :: h4 :: r) acc
      = scanString r (h4 :: h3 :: h2 :: h1 :: 117 :: 92 :: acc) := by
  rw [scanString.eq_def]; simp [k]

theorem scanString_esc {e : UInt8} {r acc : Bytes} (h : ¬ (e == 117) = true)
    (he : (e == 34 || e == 92 || e == 47 || e == 98 || e == 102 || e == 110 || e == 114 || e == 116) = true) :
    scanString (92 :: e :: r) acc = scanString r (e :: 92 :: acc) := by
  rw [scanString.eq_def]; simp [h, he]

theorem scanString_lit {rest raw : Bytes} :
    ∀ acc, litOK raw = true → scanString (raw ++ 34 :: rest) acc = some (acc.reverse ++ raw, rest) := by
  fun_induction litOK raw with
  | case1 => intro acc _; simp [scanString_quote]
  | case2 a r h => intro acc hl; simp at hl
  | case3 a h1 h2 => intro acc hl; simp at hl
  | case4 a h1 h2 e h3 x1 x2 x3 x4 r2 ih =>
    intro acc hl
    obtain rfl := eq_of_beq h2
    obtain rfl := eq_of_beq h3
    rw [Bool.and_eq_true] at hl
    simp only [List.cons_append]
    rw [scanString_u hl.1, ih _ hl.2]
    simp
  | case5 a h1 h2 e r1 h3 hne => intro acc hl; simp at hl
  | case6 a h1 h2 e r1 h3 ih =>
    intro acc hl
    obtain rfl := eq_of_beq h2
    simp only [Bool.and_eq_true] at hl
    simp only [List.cons_append]
    rw [scanString_esc h3 hl.1, ih _ hl.2]
    simp
  | case7 a r h1 h2 ih =>
    intro acc hl
    rw [List.cons_append, scanString_plain h1 h2, ih _ hl]
    simp

/-- the byte after a number literal does not continue it -/
def numEnd : Bytes → Bool
  | [] => true
  | c :: _ => !(isDigit c || c == 46 || c == 101 || c == 69)

theorem numEnd_head {rest : Bytes} (hr : numEnd rest = true) (c : UInt8) (t : Bytes) (e : rest = c :: t) : isDigit c = false := by
  subst e; simp [numEnd] at hr; exact hr.1.1.1

/-- `scanNumber` after the sign is `numTail`; its fraction and exponent parts are cut out so that each can be rewritten alone -/
def fracPart (s2 : Bytes) : Option (Bool × Bytes) :=
  match s2 with
  | 46 :: r => let (fs, r') := takeDigits r; if fs.isEmpty then none else some (true, r')
  | _ => some (false, s2)

def expPart (s3 : Bytes) : Option (Bool × Bytes) :=
  match s3 with
  | c :: r =>
    if c == 101 || c == 69 then
      let r1 := match r with
        | 43 :: t => t
        | 45 :: t => t
        | _ => r
      let (es, r') := takeDigits r1
      if es.isEmpty then none else some (true, r')
    else some (false, s3)
  | [] => some (false, [])

def numTail (neg : Bool) (s1 : Bytes) : Option (JVal × Bytes) :=
  let (ds, s2) := takeDigits s1
  if ds.isEmpty then none
  else if ds.length > 1 && ds.head? == some 48 then none      -- leading zero
  else
    match fracPart s2 with
    | none => none
    | some (hasFrac, s3) =>
      match expPart s3 with
      | none => none
      | some (hasExp, s4) =>
        if hasFrac || hasExp then some (.badnum, s4)
        else
          let n := natOfDigits ds
          let i : Int := if neg then - (n : Int) else (n : Int)
          if - (9223372036854775808 : Int) ≤ i ∧ i ≤ 9223372036854775807 then some (.int i, s4)
          else some (.badnum, s4)

theorem fracPart_numEnd {rest : Bytes} (hr : numEnd rest = true) : fracPart rest = some (false, rest) := by
  unfold fracPart
  split
  · simp [numEnd] at hr
  · rfl

theorem expPart_numEnd {rest : Bytes} (hr : numEnd rest = true) : expPart rest = some (false, rest) := by
  unfold expPart
  split
  · simp [numEnd] at hr
    simp [hr]
  · rfl

theorem scanNumber_neg (r : Bytes) : scanNumber (45 :: r) = numTail true r := rfl

theorem scanNumber_pos {d : UInt8} {t : Bytes} (h : d ≠ 45) : scanNumber (d :: t) = numTail false (d :: t) := by
  unfold scanNumber
  split
  · rename_i heq
    split at heq
    · rename_i h2; injection h2 with h2; exact absurd h2 h
    · injection heq with h1 h2; subst h1; subst h2; rfl

theorem numTail_digits (D : DigitFacts) (neg : Bool) (n : Nat) (rest : Bytes) (hr : numEnd rest = true) (i : Int)
    (e : (if neg then - (n : Int) else (n : Int)) = i) (lo : -9223372036854775808 ≤ i) (hi : i ≤ 9223372036854775807) :
    numTail neg (natDigits n ++ rest) = some (.int i, rest) := by
  subst e
  unfold numTail
  rw [takeDigits_append (D.all_digits n) (numEnd_head hr)]
  simp only []
  have h1 : (natDigits n).isEmpty = false := by simpa using D.nonempty n
  have h2 : (decide ((natDigits n).length > 1) && (natDigits n).head? == some 48) = false := by
    by_cases hl : 1 < (natDigits n).length
    · simp [D.no_leading_zero n hl]
    · simp [hl]
  rw [h1, h2, fracPart_numEnd hr]
  simp only []
  rw [expPart_numEnd hr]
  simp [D.value, lo, hi]

theorem natDigits_head (D : DigitFacts) (n : Nat) : ∃ d t, natDigits n = d :: t ∧ isDigit d = true := by
  have h2 := D.all_digits n
  cases h : natDigits n with
  | nil => exact absurd h (D.nonempty n)
  | cons d t =>
    rw [h] at h2
    simp only [List.all_cons, Bool.and_eq_true] at h2
    exact ⟨d, t, rfl, h2.1⟩

theorem intLit_head (D : DigitFacts) (i : Int) :
    ∃ c t, intLit i = c :: t ∧ (c = 45 ∨ isDigit c = true) := by
  unfold intLit
  split
  · exact ⟨45, _, rfl, Or.inl rfl⟩
  · obtain ⟨d, t, h, hd⟩ := natDigits_head D i.natAbs
    exact ⟨d, t, h, Or.inr hd⟩

theorem scanNumber_intLit (D : DigitFacts) (i : Int) (lo : -9223372036854775808 ≤ i) (hi : i ≤ 9223372036854775807)
    (rest : Bytes) (hr : numEnd rest = true) : scanNumber (intLit i ++ rest) = some (.int i, rest) := by
  unfold intLit
  split
  · rw [List.cons_append, scanNumber_neg, numTail_digits D true _ _ hr i (by rw [if_pos rfl]; omega) lo hi]
  · obtain ⟨d, t, h, hd⟩ := natDigits_head D i.natAbs
    have hd45 : d ≠ 45 := by
      intro h45; subst h45; exact absurd hd (by decide)
    rw [h, List.cons_append, scanNumber_pos hd45, ← List.cons_append, ← h,
      numTail_digits D false _ _ hr i (by rw [if_neg Bool.false_ne_true]; omega) lo hi]

theorem not_digit_lit (c k : UInt8) (h : isDigit c = true) (hk : isDigit k = false) : (c == k) = false := by
  cases hc : (c == k) with
  | false => rfl
  | true => have := eq_of_beq hc; subst this; rw [h] at hk; cases hk

theorem isWs_of_isDigit {c : UInt8} (h : isDigit c = true) : isWs c = false := by
  simp only [isWs, not_digit_lit c 32 h (by decide), not_digit_lit c 9 h (by decide),
    not_digit_lit c 10 h (by decide), not_digit_lit c 13 h (by decide), Bool.or_self]

theorem print_head (D : DigitFacts) (v : JVal) : ∃ c t, print v = c :: t ∧ isWs c = false ∧ c ≠ 93 := by
  cases v with
  | null => exact ⟨110, _, by rw [print], by decide, by decide⟩
  | bool b =>
    cases b
    · exact ⟨102, _, by rw [print], by decide, by decide⟩
    · exact ⟨116, _, by rw [print], by decide, by decide⟩
  | int i =>
    obtain ⟨c, t, h, rfl | hd⟩ := intLit_head D i
    · exact ⟨45, t, by rw [print, h], by decide, by decide⟩
    · exact ⟨c, t, by rw [print, h], isWs_of_isDigit hd, by simpa using not_digit_lit c 93 hd (by decide)⟩
  | badnum => exact ⟨49, _, by rw [print], by decide, by decide⟩
  | str raw => exact ⟨34, _, by rw [print]; rfl, by decide, by decide⟩
  | arr xs => exact ⟨91, _, by rw [print]; rfl, by decide, by decide⟩
  | obj kvs => exact ⟨123, _, by rw [print]; rfl, by decide, by decide⟩

theorem skipWs_cons_ws {c : UInt8} {s : Bytes} (h : isWs c = true) : skipWs (c :: s) = skipWs s := by
  simp [skipWs, h]
theorem skipWs_cons_nws {c : UInt8} {s : Bytes} (h : isWs c = false) : skipWs (c :: s) = c :: s := by
  simp [skipWs, h]

theorem parseValue_ws {fuel : Nat} {c : UInt8} {s : Bytes} (h : isWs c = true) :
    parseValue fuel (c :: s) = parseValue fuel s := by
  cases fuel with
  | zero => simp [parseValue]
  | succ f => rw [parseValue, parseValue, skipWs_cons_ws h]

theorem parseMembers_ws {fuel : Nat} {c : UInt8} {s : Bytes} {acc : List (Bytes × JVal)} (h : isWs c = true) :
    parseMembers fuel (c :: s) acc = parseMembers fuel s acc := by
  cases fuel with
  | zero => simp [parseMembers]
  | succ f => rw [parseMembers, parseMembers, skipWs_cons_ws h]

theorem parseElems_ws {fuel : Nat} {c : UInt8} {s : Bytes} {acc : List JVal} (h : isWs c = true) :
    parseElems fuel (c :: s) acc = parseElems fuel s acc := by
  cases fuel with
  | zero => simp [parseElems]
  | succ f => rw [parseElems, parseElems, parseValue_ws h]

/-- the items after the first, each behind its `,` and line break -/
def sepTail {β : Type} (item : β → Bytes) (xs : List β) : Bytes := xs.flatMap (fun z => 44 :: 10 :: item z)

def memberText (kv : Bytes × JVal) : Bytes := 34 :: quote kv.1 ++ [34, 58, 32] ++ print kv.2

theorem printElems_cons (x : JVal) (xs : List JVal) : printElems (x :: xs) = print x ++ sepTail print xs := by
  induction xs generalizing x with
  | nil => simp [printElems, sepTail]
  | cons y ys ih => simp [printElems, ih y, sepTail, List.flatMap_cons]

theorem printMembers_cons (kv : Bytes × JVal) (kvs : List (Bytes × JVal)) :
    printMembers (kv :: kvs) = memberText kv ++ sepTail memberText kvs := by
  induction kvs generalizing kv with
  | nil => simp [printMembers, sepTail, memberText]
  | cons y ys ih => simp [printMembers, ih y, sepTail, memberText, List.flatMap_cons]

/-- One round of a loop over `,`-separated items closed by `cl`: with fuel for the item's text `t`, the loop reads it as `o`
    and then either ends at `cl` or goes on behind the separator. -/
def Round {β : Type} (loop : Nat → Bytes → List β → Option (JVal × Bytes)) (mk : List β → JVal) (cl : UInt8)
    (t : Bytes) (o : β) : Prop :=
  ∀ f acc, t.length ≤ f →
    (∀ rest, loop (f + 2) (t ++ cl :: rest) acc = some (mk (acc ++ [o]), rest)) ∧
    (∀ more, loop (f + 2) (t ++ 44 :: 10 :: more) acc = loop (f + 1) more (acc ++ [o]))

/-- such a loop reads a printed list; two more than the length of the text is fuel enough, every round consumes its item -/
theorem loop_join {β : Type} {loop : Nat → Bytes → List β → Option (JVal × Bytes)} {mk : List β → JVal} {cl : UInt8}
    (item : β → Bytes) (xs : List β) : ∀ (x : β), (∀ z ∈ x :: xs, Round loop mk cl (item z) z) → ∀ fuel acc rest,
      (item x ++ sepTail item xs).length + 2 ≤ fuel →
      loop fuel (item x ++ (sepTail item xs ++ cl :: rest)) acc = some (mk (acc ++ x :: xs), rest) := by
  induction xs with
  | nil =>
    intro x hr fuel acc rest hf
    obtain ⟨f, rfl⟩ : ∃ f, fuel = f + 2 := ⟨fuel - 2, by omega⟩
    simp only [sepTail, List.flatMap_nil, List.append_nil, List.nil_append] at hf ⊢
    exact (hr x (by simp) f acc (by omega)).1 rest
  | cons y ys ih =>
    intro x hr fuel acc rest hf
    obtain ⟨f, rfl⟩ : ∃ f, fuel = f + 2 := ⟨fuel - 2, by omega⟩
    have hl : sepTail item (y :: ys) = 44 :: 10 :: (item y ++ sepTail item ys) := by simp [sepTail, List.flatMap_cons]
    rw [hl] at hf ⊢
    simp only [List.length_append, List.length_cons] at hf
    rw [List.cons_append, List.cons_append, (hr x (by simp) f acc (by omega)).2, List.append_assoc,
      ih y (fun z hz => hr z (List.mem_cons_of_mem _ hz)) _ _ rest (by simp only [List.length_append]; omega)]
    simp

/-- the statement about one value: one more than the length of its text is fuel enough -/
def PV (v : JVal) : Prop :=
  ∀ f rest, (print v).length ≤ f → numEnd rest = true → parseValue (f + 1) (print v ++ rest) = some (v, rest)

theorem parseElems_item (f : Nat) (v : JVal) (tl : Bytes) (acc : List JVal)
    (hpv : parseValue f (print v ++ tl) = some (v, tl)) :
    parseElems (f + 1) (print v ++ tl) acc =
      match skipWs tl with
      | 44 :: r2 => parseElems f r2 (acc ++ [v])
      | 93 :: r2 => some (.arr (acc ++ [v]), r2)
      | _ => none := by
  rw [parseElems, hpv]
  rfl

theorem round_elem {v : JVal} (h : PV v) : Round parseElems .arr 93 (print v) v := by
  intro f acc hf
  refine ⟨fun rest => ?_, fun more => ?_⟩
  · rw [parseElems_item _ v _ acc (h f _ hf rfl), skipWs_cons_nws (by decide)]
    rfl
  · rw [parseElems_item _ v _ acc (h f _ hf rfl), skipWs_cons_nws (by decide)]
    simp only []
    rw [parseElems_ws (by decide)]

theorem parseMembers_item (f : Nat) (k : Bytes) (v : JVal) (tl : Bytes) (acc : List (Bytes × JVal))
    (hk : unquote (quote k) = k) (hpv : parseValue f (print v ++ tl) = some (v, tl)) :
    parseMembers (f + 1) (memberText (k, v) ++ tl) acc =
      match skipWs tl with
      | 44 :: r4 => parseMembers f r4 (acc ++ [(k, v)])
      | 125 :: r4 => some (.obj (acc ++ [(k, v)]), r4)
      | _ => none := by
  simp only [memberText, List.cons_append, List.append_assoc, List.nil_append]
  rw [parseMembers, skipWs_cons_nws (by decide)]
  simp only []
  rw [scanString_lit [] (litOK_quote k)]
  simp only [List.reverse_nil, List.nil_append]
  rw [skipWs_cons_nws (by decide)]
  simp only []
  rw [parseValue_ws (by decide), hpv]
  simp only [hk]
  rfl

theorem round_member {k : Bytes} {v : JVal} (hk : unquote (quote k) = k) (h : PV v) :
    Round parseMembers .obj 125 (memberText (k, v)) (k, v) := by
  intro f acc hf
  have hv : (print v).length ≤ f := by
    simp only [memberText, List.length_append, List.length_cons] at hf; omega
  refine ⟨fun rest => ?_, fun more => ?_⟩
  · rw [parseMembers_item _ k v _ acc hk (h f _ hv rfl), skipWs_cons_nws (by decide)]
    rfl
  · rw [parseMembers_item _ k v _ acc hk (h f _ hv rfl), skipWs_cons_nws (by decide)]
    simp only []
    rw [parseMembers_ws (by decide)]

theorem parseValue_number (f : Nat) (c : UInt8) (t : Bytes) (hc : c = 45 ∨ isDigit c = true) :
    parseValue (f + 1) (c :: t) = scanNumber (c :: t) := by
  cases hc with
  | inl h => subst h; rw [parseValue, skipWs_cons_nws (by decide)]; simp
  | inr h =>
    rw [parseValue, skipWs_cons_nws (isWs_of_isDigit h)]
    simp [not_digit_lit c 123 h (by decide), not_digit_lit c 91 h (by decide), not_digit_lit c 34 h (by decide),
      not_digit_lit c 116 h (by decide), not_digit_lit c 102 h (by decide), not_digit_lit c 110 h (by decide), h]

theorem parseValue_print (D : DigitFacts) {v : JVal} (h : WFJ v) : PV v := by
  induction h with
  | null =>
    intro f rest _ _
    simp only [print, List.cons_append, List.nil_append]
    rw [parseValue, skipWs_cons_nws (by decide)]
    simp [startsWith, List.isPrefixOf]
  | bool b =>
    intro f rest _ _
    cases b
    · simp only [print, List.cons_append, List.nil_append]
      rw [parseValue, skipWs_cons_nws (by decide)]
      simp [startsWith, List.isPrefixOf]
    · simp only [print, List.cons_append, List.nil_append]
      rw [parseValue, skipWs_cons_nws (by decide)]
      simp [startsWith, List.isPrefixOf]
  | int i lo hi =>
    intro f rest _ hr
    obtain ⟨c, t, hc, hcd⟩ := intLit_head D i
    rw [print, hc, List.cons_append, parseValue_number f c _ hcd, ← List.cons_append, ← hc]
    exact scanNumber_intLit D i lo hi rest hr
  | str raw hl =>
    intro f rest _ _
    simp only [print, List.append_assoc, List.cons_append, List.nil_append]
    rw [parseValue, skipWs_cons_nws (by decide)]
    simp only []
    rw [scanString_lit [] hl]
    simp
  | arr xs hx ih =>
    intro f rest hf _
    simp only [print, List.append_assoc, List.cons_append, List.nil_append] at hf ⊢
    rw [parseValue, skipWs_cons_nws (by decide)]
    simp only []
    rw [if_neg (by decide), if_pos (by decide)]
    cases xs with
    | nil =>
      rw [printElems, List.nil_append, skipWs_cons_nws (by decide)]
      rfl
    | cons x xs =>
      obtain ⟨c, t, hc, h1, h2⟩ := print_head D x
      rw [printElems_cons] at hf ⊢
      rw [List.append_assoc, hc, List.cons_append, skipWs_cons_nws h1]
      split
      · rename_i heq
        injection heq with heq _
        exact absurd heq h2
      · rw [← List.cons_append, ← hc, loop_join print xs x (fun z hz => round_elem (ih z hz)) f [] rest
          (by simp only [List.length_cons, List.length_append] at hf ⊢; omega)]
        simp
  | obj kvs hk hx ih =>
    intro f rest hf _
    simp only [print, List.append_assoc, List.cons_append, List.nil_append] at hf ⊢
    rw [parseValue, skipWs_cons_nws (by decide)]
    simp only []
    rw [if_pos (by decide)]
    cases kvs with
    | nil =>
      rw [printMembers, List.nil_append, skipWs_cons_nws (by decide)]
      rfl
    | cons x xs =>
      rw [printMembers_cons] at hf ⊢
      have hm : memberText x = 34 :: (quote x.1 ++ [34, 58, 32] ++ print x.2) := rfl
      rw [List.append_assoc, hm, List.cons_append, skipWs_cons_nws (by decide)]
      split
      · rename_i heq
        injection heq with heq _
        exact absurd heq (by decide)
      · rw [← List.cons_append, ← hm, loop_join memberText xs x
          (fun z hz => round_member (hk z hz) (ih z hz)) f [] rest
          (by simp only [List.length_cons, List.length_append] at hf ⊢; omega)]
        simp

theorem parse_print_wf (D : DigitFacts) (v : JVal) (h : WFJ v) : parse (print v) = some v := by
  have hp := parseValue_print D h (2 * (print v).length + 1) [] (by omega) rfl
  rw [List.append_nil] at hp
  unfold parse
  rw [hp]
  rfl

end Wtf.History.Json
