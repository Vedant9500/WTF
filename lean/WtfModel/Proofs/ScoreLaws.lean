import WtfModel.Basic.ScoreOps
/-
  The order / arithmetic laws the ranking theorems need from the score type, as a core-only class.
  `Proofs/ScoreField.lean` derives an instance for every linearly ordered field (Mathlib), in
  particular ℚ and ℝ.  IEEE floats do *not* satisfy these laws in general (NaN, rounding, overflow):
  that gap is stated in DESIGN.md §5 and covered by the monitors on the real floats.
-/
namespace Wtf
open ScoreOps

class ScoreLaws (S : Type) [ScoreOps S] : Prop where
  lt_irrefl : ∀ a : S, lt a a = false
  lt_trans : ∀ a b c : S, lt a b = true → lt b c = true → lt a c = true
  /-- negative transitivity: `≥` is transitive -/
  le_trans : ∀ a b c : S, lt a b = false → lt b c = false → lt a c = false
  lt_asymm : ∀ a b : S, lt a b = true → lt b a = false
  zero_lt_one : lt (zero : S) one = true
  add_nonneg : ∀ a b : S, lt a zero = false → lt b zero = false → lt (add a b) zero = false
  add_pos_of_nonneg_pos : ∀ a b : S, lt a zero = false → lt zero b = true → lt zero (add a b) = true
  add_pos_of_pos_nonneg : ∀ a b : S, lt zero a = true → lt b zero = false → lt zero (add a b) = true
  zero_add : ∀ a : S, add zero a = a
  mul_nonneg : ∀ a b : S, lt a zero = false → lt b zero = false → lt (mul a b) zero = false
  mul_pos : ∀ a b : S, lt zero a = true → lt zero b = true → lt zero (mul a b) = true
  div_nonneg : ∀ a b : S, lt a zero = false → lt zero b = true → lt (div a b) zero = false
  div_pos : ∀ a b : S, lt zero a = true → lt zero b = true → lt zero (div a b) = true
  sub_nonneg : ∀ a b : S, lt a b = false → lt (sub a b) zero = false
  ofNat_nonneg : ∀ n : Nat, lt (ofNat n : S) zero = false
  ofNat_pos : ∀ n : Nat, 0 < n → lt (zero : S) (ofNat n) = true
  ofNat_mono : ∀ m n : Nat, m ≤ n → lt (ofNat n : S) (ofNat m) = false
  ofQ_nonneg : ∀ q : Q, 0 ≤ q.num → 0 < q.den → lt (ofQ q : S) zero = false
  ofQ_pos : ∀ q : Q, 0 < q.num → 0 < q.den → lt (zero : S) (ofQ q) = true
  ofQ_le_one : ∀ q : Q, q.num ≤ q.den → 0 < q.den → lt (one : S) (ofQ q) = false
  mul_le_mul_right : ∀ a b c : S, lt a b = false → lt c zero = false → lt (mul a c) (mul b c) = false
  mul_le_mul_left : ∀ a b c : S, lt a b = false → lt c zero = false → lt (mul c a) (mul c b) = false
  add_le_add_right : ∀ a b c : S, lt a b = false → lt (add a c) (add b c) = false
  add_le_add_left : ∀ a b c : S, lt a b = false → lt (add c a) (add c b) = false
  mul_one : ∀ a : S, mul a one = a
  one_mul : ∀ a : S, mul one a = a
  div_le_div_right : ∀ a b c : S, lt a b = false → lt zero c = true → lt (div a c) (div b c) = false
  sub_zero_neg : ∀ a : S, lt zero a = true → lt (sub zero a) zero = true
  /-- an exact rational literal `≥ 1` maps to a score `≥ 1` (C13: the literals of the context-boost table) -/
  ofQ_ge_one : ∀ q : Q, (q.den : Int) ≤ q.num → 0 < q.den → lt (ofQ q : S) one = false
  /-- `a ≥ b → c - a ≤ c - b` (C01: the fuzzy score normalisation is monotone on negative library scores) -/
  sub_le_sub_left : ∀ a b c : S, lt a b = false → lt (sub c b) (sub c a) = false
  /-- `0 ≤ b → a ≤ a + b` (Boosts: `boost += x` with `x ≥ 0` never lowers the cascading boost) -/
  le_add_of_nonneg_right : ∀ a b : S, lt b zero = false → lt (add a b) a = false

namespace ScoreLaws
variable {S : Type} [ScoreOps S] [ScoreLaws S]

abbrev ge (a b : S) : Prop := lt a b = false
abbrev Nonneg (a : S) : Prop := lt a (zero : S) = false
abbrev Pos (a : S) : Prop := lt (zero : S) a = true

theorem pos_nonneg {a : S} (h : Pos a) : Nonneg a := lt_asymm _ _ h

theorem one_pos : Pos (one : S) := zero_lt_one
theorem one_nonneg : Nonneg (one : S) := pos_nonneg one_pos
theorem zero_nonneg : Nonneg (zero : S) := lt_irrefl _

theorem ge_refl (a : S) : ge a a := lt_irrefl a

theorem ge_trans {a b c : S} (h1 : ge a b) (h2 : ge b c) : ge a c := le_trans a b c h1 h2

theorem lt_of_lt_of_ge {a b c : S} (h1 : lt a b = true) (h2 : ge c b) : lt a c = true := by
  cases h : lt a c with
  | true => rfl
  | false =>
    have := le_trans a c b h h2
    rw [h1] at this; cases this

theorem nonneg_of_ge {a b : S} (h : ge a b) (hb : Nonneg b) : Nonneg a := le_trans a b zero h hb

theorem pos_of_ge_one {b : S} (h : ge b one) : Pos b := lt_of_lt_of_ge zero_lt_one h

theorem nonneg_of_ge_one {a : S} (h : ge a one) : Nonneg a := nonneg_of_ge h one_nonneg

omit [ScoreLaws S] in
/-- the admission test of the legacy loops, `if score > 0 { results = append(results, …) }` -/
theorem pos_of_admitted {s s' : S} (h : (if lt zero s then some s else none) = some s') : Pos s' := by
  split at h
  · exact Option.some.inj h ▸ ‹_›
  · cases h

omit [ScoreLaws S] in
theorem ite_nonneg {c : Prop} [Decidable c] {a b : S} (ha : Nonneg a) (hb : Nonneg b) : Nonneg (if c then a else b) := by
  split
  · exact ha
  · exact hb

end ScoreLaws
end Wtf
