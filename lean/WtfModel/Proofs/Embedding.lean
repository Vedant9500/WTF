import WtfModel.Model.Embedding

/-!
  For C19, the byte-level loaders of `Model/Embedding.lean` (core Lean only): what the record loops consume, return and
  request (`wvRecords_spec`, `ceRecords_spec`), and each loader outcome by outcome (`parseWordVectors_cases`,
  `parseCmdEmbeddings_cases`): refused before anything is sized from the header, or the header's records fit into the rest
  of the file.  What the size check buys is derived from those two.  Last, the averaging loop of `EmbedQuery` does not
  panic when no stored vector is longer than `dim` (`embedTokens_no_panic`).
-/
namespace Wtf.Embedding

theorem readFull_ok {n : Nat} {bs x rest : Bytes} (h : readFull n bs = .ok (x, rest)) :
    bs = x ++ rest ∧ x.length = n := by
  unfold readFull at h
  split at h
  · rename_i h0
    cases h; subst h0; simp
  · split at h
    · rename_i hle
      cases h
      exact ⟨(List.take_append_drop n bs).symm, by simp [List.length_take]; omega⟩
    · split at h <;> cases h

theorem readFull_len {n : Nat} {bs x rest : Bytes} (h : readFull n bs = .ok (x, rest)) :
    bs.length = n + rest.length := by
  have ⟨h1, h2⟩ := readFull_ok h
  rw [h1, List.length_append, h2]

theorem readFull_take {n : Nat} {bs x rest : Bytes} (h : readFull n bs = .ok (x, rest)) : x = bs.take n := by
  have ⟨h1, h2⟩ := readFull_ok h
  rw [h1, List.take_left' h2]

theorem readFull_fits {n : Nat} {bs : Bytes} (h : n ≤ bs.length) :
    ∃ x rest, readFull n bs = .ok (x, rest) := by
  unfold readFull
  by_cases h0 : n = 0
  · simp [h0]
  · simp [h0, h]

theorem leNat_lt (bs : Bytes) : leNat bs < 256 ^ bs.length := by
  induction bs with
  | nil => simp [leNat]
  | cons b bs ih =>
    simp only [leNat, List.length_cons, Nat.pow_succ]
    have := b.toNat_lt
    omega

/-- a word length is read as two bytes -/
theorem readFull_two_lt {bs lb rest : Bytes} (h : readFull 2 bs = .ok (lb, rest)) : leNat lb < 65536 := by
  have := leNat_lt lb
  rwa [(readFull_ok h).2] at this

theorem f32sOfBytes_length : ∀ (n : Nat) (bs : Bytes), bs.length = 4 * n → (f32sOfBytes bs).length = n
  | 0, bs, h => by
    have : bs = [] := List.eq_nil_of_length_eq_zero (by omega)
    subst this; simp [f32sOfBytes]
  | n + 1, bs, h => by
    match bs, h with
    | a :: b :: c :: d :: rest, h =>
      simp only [f32sOfBytes, List.length_cons]
      have := f32sOfBytes_length n rest (by simp only [List.length_cons] at h; omega)
      omega

@[simp] theorem allocTotal_nil : allocTotal [] = 0 := rfl

@[simp] theorem allocTotal_cons (a : Alloc) (l : List Alloc) : allocTotal (a :: l) = a.cost + allocTotal l := by
  simp [allocTotal]

@[simp] theorem allocTotal_append (l m : List Alloc) : allocTotal (l ++ m) = allocTotal l + allocTotal m := by
  simp [allocTotal, List.sum_append]

theorem allocTotal_wvRec (dim wl : Nat) : allocTotal (wvRecAllocs dim wl) = 2 + wl + 8 * dim := by
  simp [wvRecAllocs, Alloc.cost]; omega

theorem allocTotal_ceRec (dim : Nat) : allocTotal (ceRecAllocs dim) = 8 * dim := by
  simp [ceRecAllocs, Alloc.cost]; omega

/-- bytes one record occupies in the file -/
def wvRecSize (dim : Nat) (r : WordRec) : Nat := 2 + r.1.length + 4 * dim

def wvSize (dim : Nat) (recs : List WordRec) : Nat := (recs.map (wvRecSize dim)).sum

/-- The bound on the requests of the record loop: twice the bytes it could read, plus one record's worth (a word of up to
    65535 bytes) for the record on which it stops. -/
theorem wvRecords_spec (dim todo i : Nat) (bs : Bytes) :
    allocTotal (wvRecords dim todo i bs).allocs ≤ 2 * bs.length + (65537 + 8 * dim) ∧
    ∀ recs, (wvRecords dim todo i bs).res = .ok recs →
      recs.length = todo ∧ wvSize dim recs ≤ bs.length ∧ ∀ r ∈ recs, r.2.length = dim ∧ r.1.length < 65536 := by
  fun_induction wvRecords dim todo i bs with
  | case1 => exact ⟨Nat.zero_le _, fun recs h => by cases h; exact ⟨rfl, Nat.zero_le _, nofun⟩⟩
  | case2 => exact ⟨by simp [Alloc.cost]; omega, nofun⟩
  | case3 _ _ _ _ _ h1 =>
    have hlb := readFull_two_lt h1
    exact ⟨by simp [Alloc.cost]; omega, nofun⟩
  | case4 _ _ _ _ _ h1 =>
    have hlb := readFull_two_lt h1
    exact ⟨by rw [allocTotal_wvRec]; omega, nofun⟩
  | case5 todo i bs lb bs1 h1 wl w bs2 h2 vb bs3 h3 r ih =>
    obtain ⟨iha, ihr⟩ : allocTotal r.allocs ≤ _ ∧ ∀ recs, r.res = .ok recs → _ := ih
    have hl1 := readFull_len h1
    have hlb := readFull_two_lt h1
    have hl2 := readFull_len h2
    have hw := (readFull_ok h2).2
    have hl3 := readFull_len h3
    refine ⟨by simp only [allocTotal_append, allocTotal_wvRec]; omega, fun recs h => ?_⟩
    cases hr : r.res with
    | error e => rw [hr] at h; cases h
    | ok recs' =>
      rw [hr] at h
      cases h
      obtain ⟨hn, hsz, hall⟩ := ihr recs' hr
      refine ⟨congrArg (· + 1) hn, ?_, List.forall_mem_cons.mpr ⟨⟨f32sOfBytes_length dim vb (readFull_ok h3).2, ?_⟩, hall⟩⟩
      · simp only [wvSize, List.map_cons, List.sum_cons, wvRecSize] at hsz ⊢
        omega
      · show w.length < 65536
        omega

theorem wvSize_ge (dim : Nat) : ∀ recs : List WordRec, recs.length * (2 + 4 * dim) ≤ wvSize dim recs
  | [] => by simp [wvSize]
  | r :: rs => by
    have ih := wvSize_ge dim rs
    simp only [wvSize, List.map_cons, List.sum_cons, List.length_cons, wvRecSize] at *
    rw [Nat.succ_mul]; omega

theorem distinct_length_le : ∀ l : List Bytes, (distinct l).length ≤ l.length
  | [] => by simp [distinct]
  | x :: xs => by
    have ih := distinct_length_le xs
    have := List.length_filter_le (fun y => y != x) (distinct xs)
    simp only [distinct, List.length_cons]
    omega

theorem vocab_length_le {V : Type} (recs : List (Bytes × V)) : (vocab recs).length ≤ recs.length := by
  have := distinct_length_le (recs.map (·.1))
  simpa [vocab] using this

/-- every request of the unchecked loader includes the table sized from the header -/
theorem wv_unchecked_alloc (dim : Nat) (file hb rest : Bytes) (h : readFull 4 file = .ok (hb, rest)) :
    mapEntryCost * leNat hb ≤ allocTotal (parseWordVectorsWith false dim file).allocs := by
  simp [parseWordVectorsWith, h, Alloc.cost]
  omega

/-- `2 *`: the `4 * dim` bytes of a record are requested as the vector and again as the decode scratch of `binary.Read`
    (`ceRecAllocs`), also for the record on which a short input stops the loop. -/
theorem ceRecords_spec (dim todo i : Nat) (bs : Bytes) :
    allocTotal (ceRecords dim todo i bs).2.2 ≤ 2 * (todo * (4 * dim)) ∧ (ceRecords dim todo i bs).1.length = todo ∧
    (todo * (4 * dim) ≤ bs.length →
      (ceRecords dim todo i bs).2.1 = none ∧ ∀ v ∈ (ceRecords dim todo i bs).1, v.length = dim) := by
  fun_induction ceRecords dim todo i bs with
  | case1 => simp
  | case2 todo i bs e he =>
    rw [Nat.succ_mul todo]
    refine ⟨by rw [allocTotal_ceRec]; omega, List.length_replicate, fun hfit => ?_⟩
    obtain ⟨x, rest, hx⟩ := readFull_fits (Nat.le_trans (Nat.le_add_left _ _) hfit)
    rw [hx] at he
    cases he
  | case3 todo i bs vb bs1 h1 r ih =>
    rw [Nat.succ_mul todo]
    have hl := readFull_len h1
    obtain ⟨ha, hlen, ih⟩ : allocTotal r.2.2 ≤ _ ∧ r.1.length = _ ∧ _ := ih
    refine ⟨by rw [allocTotal_append, allocTotal_ceRec]; omega, congrArg (· + 1) hlen, fun hfit => ?_⟩
    obtain ⟨hn, hv⟩ := ih (by omega)
    exact ⟨hn, List.forall_mem_cons.mpr ⟨f32sOfBytes_length dim vb (readFull_ok h1).2, hv⟩⟩

/-- `LoadCommandEmbeddings`, outcome by outcome: refused before anything is sized from the header (≤ 4104 bytes requested,
    table untouched), or the size check passed — the `n` records of the header fit into the unread rest — and the record loop ran -/
theorem parseCmdEmbeddings_cases (dim : Nat) (file : Bytes) :
    (∃ e, (parseCmdEmbeddings dim file).err = some e ∧ (parseCmdEmbeddings dim file).table = none ∧
      allocTotal (parseCmdEmbeddings dim file).allocs ≤ 4104) ∨
    (∃ n rest, n = leNat (file.take 4) ∧ file.length = 8 + rest.length ∧ n * (4 * dim) ≤ rest.length ∧ (0 < n → 0 < dim) ∧
      parseCmdEmbeddings dim file = ⟨(ceRecords dim n 0 rest).2.1, some (ceRecords dim n 0 rest).1,
        [.bytes bufioSize, .bytes 4, .bytes 4] ++ [.sliceHdrs n] ++ (ceRecords dim n 0 rest).2.2⟩) := by
  unfold parseCmdEmbeddings parseCmdEmbeddingsWith
  split
  · exact .inl ⟨_, rfl, rfl, by simp [Alloc.cost, bufioSize]⟩
  · rename_i nb rest h1
    have hl1 := readFull_len h1
    have hnb := readFull_take h1
    split
    · exact .inl ⟨_, rfl, rfl, by simp [Alloc.cost, bufioSize]⟩
    · rename_i db rest2 h2
      have hl2 := readFull_len h2
      dsimp only
      split
      · exact .inl ⟨_, rfl, rfl, by simp [Alloc.cost, bufioSize]⟩
      · rename_i hd
        have hd' : leNat db = dim := by simpa using hd
        subst hd'
        split
        · exact .inl ⟨_, rfl, rfl, by simp [Alloc.cost, bufioSize]⟩
        · rename_i hchk
          simp only [Bool.true_and, Bool.and_eq_true, Bool.or_eq_true, decide_eq_true_eq, not_and, not_or, Nat.not_lt] at hchk
          subst hnb
          refine .inr ⟨_, rest2, rfl, by omega, ?_, fun hn => by have := (hchk hn).1; omega, rfl⟩
          by_cases hn : leNat (file.take 4) > 0
          · have := hchk hn
            have := Nat.mul_le_of_le_div _ _ _ this.2
            omega
          · have : leNat (file.take 4) = 0 := by omega
            simp [this]

/-- `LoadWordVectors`, outcome by outcome: refused before anything is sized from the header, or the size check passed —
    the `n` records of the header, at their minimal size, fit into the unread rest — and the record loop ran -/
theorem parseWordVectors_cases (dim : Nat) (file : Bytes) :
    (∃ e, (parseWordVectors dim file).res = .error e ∧ allocTotal (parseWordVectors dim file).allocs ≤ 4100) ∨
    (∃ n rest, n = leNat (file.take 4) ∧ file.length = 4 + rest.length ∧ n * (2 + 4 * dim) ≤ rest.length ∧
      parseWordVectors dim file = ⟨(wvRecords dim n 0 rest).res, [.bytes bufioSize, .bytes 4, .mapHint n] ++ (wvRecords dim n 0 rest).allocs⟩) := by
  unfold parseWordVectors parseWordVectorsWith
  split
  · exact .inl ⟨_, rfl, by simp [Alloc.cost, bufioSize]⟩
  · rename_i hb rest hh
    have hlen := readFull_len hh
    have hhb := readFull_take hh
    subst hhb
    dsimp only
    split
    · exact .inl ⟨_, rfl, by simp [Alloc.cost, bufioSize]⟩
    · rename_i hchk
      simp only [Bool.true_and, decide_eq_true_eq, Nat.not_lt] at hchk
      have := Nat.mul_le_of_le_div _ _ _ hchk
      exact .inr ⟨_, rest, rfl, hlen, by omega, rfl⟩

section
variable {V : Type} [EScoreOps V]

theorem addVec_ok : ∀ (sum vec : List V), vec.length ≤ sum.length →
    ∃ r, addVec sum vec = .ok r ∧ r.length = sum.length
  | sum, [], _ => ⟨sum, by cases sum <;> simp [addVec], rfl⟩
  | [], _ :: _, h => by simp at h
  | s :: ss, v :: vs, h => by
    obtain ⟨r, hr, hl⟩ := addVec_ok ss vs (by simpa using h)
    exact ⟨EScoreOps.add s v :: r, by simp [addVec, hr], by simp [hl]⟩

theorem sumKnown_ok (lookup : Bytes → Option (List V)) (dim : Nat)
    (hfit : ∀ t vec, lookup t = some vec → vec.length ≤ dim) :
    ∀ (tokens : List Bytes) (acc : List V × Nat), acc.1.length = dim →
      ∃ r, sumKnown lookup tokens acc = .ok r ∧ r.1.length = dim
  | [], acc, h => ⟨acc, by simp [sumKnown], h⟩
  | t :: ts, (sum, count), h => by
    unfold sumKnown
    split
    · exact sumKnown_ok lookup dim hfit ts (sum, count) h
    · rename_i vec hv
      obtain ⟨r, hr, hl⟩ := addVec_ok sum vec (by simp at h; rw [h]; exact hfit t vec hv)
      simp only [hr]
      exact sumKnown_ok lookup dim hfit ts (r, count + 1) (by simp at h ⊢; rw [hl, h])

theorem embedTokens_no_panic (lookup : Bytes → Option (List V)) (dim : Nat)
    (hfit : ∀ t vec, lookup t = some vec → vec.length ≤ dim) (tokens : List Bytes) :
    ∃ r, embedTokens dim lookup tokens = .ok r := by
  unfold embedTokens
  split
  · exact ⟨none, rfl⟩
  · obtain ⟨r, hr, _⟩ := sumKnown_ok lookup dim hfit tokens (List.replicate dim EScoreOps.zero, 0) (by simp)
    rw [hr]
    simp only []
    split
    · exact ⟨none, rfl⟩
    · exact ⟨_, rfl⟩

theorem lookupWord_mem {W : Type} {recs : List (Bytes × W)} {w : Bytes} {v : W}
    (h : lookupWord recs w = some v) : ∃ r ∈ recs, r.2 = v := by
  unfold lookupWord at h
  simp only [Option.map_eq_some_iff] at h
  obtain ⟨r, hr, rfl⟩ := h
  exact ⟨r, List.mem_reverse.mp (List.mem_of_find?_eq_some hr), rfl⟩

end

end Wtf.Embedding
