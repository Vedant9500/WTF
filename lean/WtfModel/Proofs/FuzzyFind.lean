import WtfModel.Model.Fuzzy
/-
  `FindFromNoSort` over all targets in closed form: it returns iff the matcher panics on no target, and then its answer
  is `targets.zipIdx.filterMap hit` - each matching target's (index, score), in target order.  Which targets are
  reported, that each is reported once, in increasing index order and in range are list facts about that.
-/
namespace Wtf.Fuzzy

variable (ri : RuneInfo) (p : Bytes)

/-- what target number `tk.2` contributes to `FindFromNoSort`'s answer -/
def hit (tk : Bytes × Nat) : Option (Nat × Int) :=
  match matchOne ri p tk.1 with
  | .ok (some (sc, _)) => some (tk.2, sc)
  | _ => none

theorem findNoSort_go_ok_iff (ts : List Bytes) (i : Nat) (ms : List (Nat × Int)) :
    findNoSort.go ri p i ts = .ok ms ↔
      (∀ t ∈ ts, ∃ r, matchOne ri p t = .ok r) ∧ ms = (ts.zipIdx i).filterMap (hit ri p) := by
  induction ts generalizing i ms with
  | nil => simp [findNoSort.go, eq_comm]
  | cons t rest ih =>
    rw [findNoSort.go, List.zipIdx_cons, List.filterMap_cons, hit]
    cases hm : matchOne ri p t with
    | error e => exact ⟨fun h => (nomatch h), fun ⟨h, _⟩ => by obtain ⟨r, hr⟩ := h t (by simp); rw [hm] at hr; cases hr⟩
    | ok r =>
      have hall : (∀ t' ∈ t :: rest, ∃ r, matchOne ri p t' = .ok r) ↔ ∀ t' ∈ rest, ∃ r, matchOne ri p t' = .ok r := by
        rw [List.forall_mem_cons]; exact and_iff_right ⟨r, hm⟩
      rw [hall]
      cases hg : findNoSort.go ri p (i + 1) rest with
      | error e =>
        have hno : ¬ ∀ t' ∈ rest, ∃ r, matchOne ri p t' = .ok r := fun h => by
          have := (ih (i + 1) _).mpr ⟨h, rfl⟩
          rw [hg] at this; cases this
        cases r <;> exact ⟨fun h => (nomatch h), fun h => absurd h.1 hno⟩
      | ok ms' =>
        obtain ⟨hok, rfl⟩ := (ih (i + 1) ms').mp hg
        cases r <;> simp only [Except.ok.injEq, and_iff_right hok] <;> exact eq_comm

theorem hit_eq_some (tk : Bytes × Nat) (k : Nat) (sc : Int) :
    hit ri p tk = some (k, sc) ↔ tk.2 = k ∧ ∃ idxs, matchOne ri p tk.1 = .ok (some (sc, idxs)) := by
  unfold hit
  split
  · rename_i sc' idxs h
    simp only [Option.some.injEq, Prod.mk.injEq, h, Except.ok.injEq]
    exact ⟨fun ⟨h1, h2⟩ => ⟨h1, idxs, h2, rfl⟩, fun ⟨h1, _, h2, _⟩ => ⟨h1, h2⟩⟩
  · rename_i h
    exact ⟨fun h' => (nomatch h'), fun ⟨_, idxs, h'⟩ => absurd h' (h sc idxs)⟩

theorem findNoSort_ok_iff (hp : p ≠ []) (ts : List Bytes) (ms : List (Nat × Int)) :
    findNoSort ri p ts = .ok ms ↔
      (∀ t ∈ ts, ∃ r, matchOne ri p t = .ok r) ∧ ms = ts.zipIdx.filterMap (hit ri p) := by
  have : p.isEmpty = false := by cases p with | nil => exact absurd rfl hp | cons _ _ => rfl
  simp only [findNoSort, this, Bool.false_eq_true, if_false]
  exact findNoSort_go_ok_iff ri p ts 0 ms

theorem mem_hits (ts : List Bytes) (i k : Nat) (sc : Int) :
    (k, sc) ∈ (ts.zipIdx i).filterMap (hit ri p) ↔
      ∃ t idxs, i ≤ k ∧ ts[k - i]? = some t ∧ matchOne ri p t = .ok (some (sc, idxs)) := by
  simp only [List.mem_filterMap, hit_eq_some, Prod.exists, List.mk_mem_zipIdx_iff_le_and_getElem?_sub]
  exact ⟨fun ⟨t, _, ⟨h1, h2⟩, rfl, idxs, h3⟩ => ⟨t, idxs, h1, h2, h3⟩,
    fun ⟨t, idxs, h1, h2, h3⟩ => ⟨t, k, ⟨h1, h2⟩, rfl, idxs, h3⟩⟩

theorem findNoSort_increasing {ts : List Bytes} {ms : List (Nat × Int)} (h : findNoSort ri p ts = .ok ms) :
    (ms.map (·.1)).Pairwise (· < ·) := by
  unfold findNoSort at h
  split at h
  · cases h; exact .nil
  · obtain ⟨_, rfl⟩ := (findNoSort_go_ok_iff ri p ts 0 ms).mp h
    rw [List.pairwise_map]
    have hz : (ts.zipIdx 0).Pairwise (fun a b => a.2 < b.2) := by
      rw [← List.pairwise_map (f := Prod.snd) (R := (· < ·)), List.zipIdx_map_snd]
      exact List.pairwise_lt_range'
    refine hz.filterMap _ ?_
    intro a a' haa b hb b' hb'
    obtain ⟨k, sc⟩ := b
    obtain ⟨k', sc'⟩ := b'
    rw [hit_eq_some] at hb hb'
    rw [← hb.1, ← hb'.1]
    exact haa

end Wtf.Fuzzy
