import WtfModel.Model.Metrics

/-!
  C18, histograms.  `Observe` keeps one cell more than there are buckets and the cells summing to the count (`Hist.WF`);
  the percentile loop stops no earlier for a larger target (`pctIdx_mono`) and stops at all when the target is at
  most the count (`pctIdx_some`).  The monotonicity theorem is over the instance of the model at the rationals (`Rat` is
  in core Lean): for `0 ≤ p` Go's truncating `int64(…)` is a floor, hence monotone in `p`.
-/
namespace Wtf.Metrics

section Buckets
variable {α : Type} [Num α]

theorem bump_length (bs : List α) (cs : List Nat) (v : α) : (bump bs cs v).length = cs.length := by
  fun_induction bump bs cs v <;> simp [*]

theorem bump_sum {bs : List α} {cs : List Nat} {v : α} (h : cs.length = bs.length + 1) :
    (bump bs cs v).sum = cs.sum + 1 := by
  fun_induction bump bs cs v
  · simp; omega
  · rename_i ih; simp [ih (by simpa using h)]; omega
  · simp; omega
  · simp at h

/-- what `NewHistogramWithBuckets` establishes and `Observe` keeps -/
structure Hist.WF (h : Hist α) : Prop where
  cells : h.counts.length = h.buckets.length + 1
  total : h.counts.sum = h.count

theorem Hist.new_wf (buckets : List α) : (Hist.new buckets).WF :=
  ⟨by simp [Hist.new], by simp [Hist.new]⟩

theorem Hist.observe_wf {h : Hist α} (w : h.WF) (v : α) : (h.observe v).WF :=
  ⟨by simp [Hist.observe, bump_length, w.cells], by simp [Hist.observe, bump_sum w.cells, w.total]⟩

theorem Hist.observe_buckets (h : Hist α) (v : α) : (h.observe v).buckets = h.buckets := rfl

theorem Hist.observeAll_spec (vs : List α) : ∀ {h : Hist α}, h.WF →
    (h.observeAll vs).WF ∧ (h.observeAll vs).count = h.count + vs.length ∧
    (h.observeAll vs).sum = vs.foldl Num.add h.sum ∧ (h.observeAll vs).buckets = h.buckets := by
  induction vs with
  | nil => intro h w; exact ⟨w, rfl, rfl, rfl⟩
  | cons v vs ih =>
    intro h w
    obtain ⟨w', hc, hs, hb⟩ := ih (Hist.observe_wf w v)
    exact ⟨w', hc.trans (by simp only [Hist.observe, List.length_cons]; omega), hs, hb⟩

end Buckets

theorem pctIdx_ge {cs : List Nat} {cum t : Int} {i a : Nat} (h : pctIdx cs cum t i = some a) : i ≤ a := by
  fun_induction pctIdx cs cum t i
  · cases h
  · cases h; exact Nat.le_refl _
  · rename_i ih; exact Nat.le_of_succ_le (ih h)

theorem pctIdx_mono {cs : List Nat} {cum t t' : Int} {i a b : Nat} (htt : t ≤ t')
    (h : pctIdx cs cum t i = some a) (h' : pctIdx cs cum t' i = some b) : a ≤ b := by
  fun_induction pctIdx cs cum t i generalizing b
  · cases h
  · cases h; exact pctIdx_ge h'
  · -- the smaller target is not reached at this cell, so neither is the larger
    rename_i ih
    rw [pctIdx, if_neg (by omega)] at h'
    exact ih htt h h'

theorem pctIdx_some {cs : List Nat} (cum t : Int) (i : Nat) (hne : cs ≠ []) (ht : t ≤ cum + (cs.sum : Int)) :
    ∃ a, pctIdx cs cum t i = some a := by
  fun_induction pctIdx cs cum t i
  · exact absurd rfl hne
  · exact ⟨_, rfl⟩
  · rename_i c cs cum t i g ih
    rw [List.sum_cons, Int.natCast_add] at ht
    cases cs with
    | nil => exact absurd (by simpa using ht) g
    | cons c' cs' => exact ih (List.cons_ne_nil _ _) (by omega)

/-- Go's `int64(x)` on a real number: truncation toward zero -/
def truncZ (x : Rat) : Int := if 0 ≤ x then x.floor else -((-x).floor)

instance instNumRat : Num Rat where
  zero := 0
  add := (· + ·)
  le := fun a b => decide (a ≤ b)
  target := fun n p => truncZ ((n : Rat) * p / 100)

theorem hundred_inv_nonneg : (0 : Rat) ≤ (100 : Rat)⁻¹ :=
  Rat.le_of_lt (Rat.inv_pos.mpr (by decide))

theorem scaled_nonneg (n : Nat) {p : Rat} (hp : 0 ≤ p) : 0 ≤ (n : Rat) * p / 100 := by
  rw [Rat.div_def]
  exact Rat.mul_nonneg (Rat.mul_nonneg Rat.natCast_nonneg hp) hundred_inv_nonneg

theorem scaled_mono (n : Nat) {p p' : Rat} (h : p ≤ p') : (n : Rat) * p / 100 ≤ (n : Rat) * p' / 100 := by
  rw [Rat.div_def, Rat.div_def]
  exact Rat.mul_le_mul_of_nonneg_right (Rat.mul_le_mul_of_nonneg_left h Rat.natCast_nonneg) hundred_inv_nonneg

theorem target_eq_floor (n : Nat) {p : Rat} (hp : 0 ≤ p) :
    (Num.target n p : Int) = ((n : Rat) * p / 100).floor := by
  show truncZ _ = _
  simp [truncZ, scaled_nonneg n hp]

theorem target_mono (n : Nat) {p p' : Rat} (hp : 0 ≤ p) (h : p ≤ p') :
    (Num.target n p : Int) ≤ Num.target n p' := by
  rw [target_eq_floor n hp, target_eq_floor n (Rat.le_trans hp h)]
  exact Rat.floor_monotone (scaled_mono n h)

theorem target_le_count (n : Nat) {p : Rat} (hp : 0 ≤ p) (h : p ≤ 100) : (Num.target n p : Int) ≤ n := by
  rw [target_eq_floor n hp]
  have h1 : (n : Rat) * p / 100 ≤ (n : Rat) * 100 / 100 := scaled_mono n h
  rw [Rat.mul_div_cancel (by decide)] at h1
  have := Rat.floor_monotone h1
  rw [← Rat.intCast_natCast, Rat.floor_intCast] at this
  exact this

theorem bucketAt_eq_clamp {α : Type} (buckets : List α) (i : Nat) :
    bucketAt buckets i = buckets[min i (buckets.length - 1)]? := by
  unfold bucketAt
  split
  · rename_i h; rw [Nat.min_eq_left (Nat.le_sub_one_of_lt h)]
  · rename_i h; rw [Nat.min_eq_right (Nat.le_trans (Nat.sub_le _ _) (Nat.le_of_not_lt h)), List.getLast?_eq_getElem?]

theorem bucketAt_mono {buckets : List Rat} (hs : buckets.Pairwise (· ≤ ·)) (hne : buckets ≠ [])
    {i j : Nat} (hij : i ≤ j) :
    ∃ x y, bucketAt buckets i = some x ∧ bucketAt buckets j = some y ∧ x ≤ y := by
  have hk : buckets.length - 1 < buckets.length := Nat.sub_lt (List.length_pos_iff.mpr hne) Nat.one_pos
  have hi := Nat.lt_of_le_of_lt (Nat.min_le_right i _) hk
  have hj := Nat.lt_of_le_of_lt (Nat.min_le_right j _) hk
  refine ⟨_, _, by rw [bucketAt_eq_clamp, List.getElem?_eq_getElem hi], by rw [bucketAt_eq_clamp, List.getElem?_eq_getElem hj], ?_⟩
  rcases Nat.lt_or_eq_of_le (show min i (buckets.length - 1) ≤ min j (buckets.length - 1) by
    exact Nat.le_min.mpr ⟨Nat.le_trans (Nat.min_le_left _ _) hij, Nat.min_le_right _ _⟩) with h | h
  · exact List.pairwise_iff_getElem.mp hs _ _ hi hj h
  · simp only [h]; exact Rat.le_refl

theorem percentileAt_mono {h : Hist Rat} (w : h.WF) (hs : h.buckets.Pairwise (· ≤ ·)) (hne : h.buckets ≠ [])
    {t t' : Int} (htt : t ≤ t') (ht' : t' ≤ h.count) :
    ∃ x y, h.percentileAt t = some x ∧ h.percentileAt t' = some y ∧ x ≤ y := by
  unfold Hist.percentileAt
  by_cases hc : h.count = 0
  · exact ⟨Num.zero, Num.zero, by simp [hc], by simp [hc], Rat.le_refl⟩
  · simp only [hc, ↓reduceIte]
    have hcs : h.counts ≠ [] := by
      intro e; have := w.cells; rw [e] at this; simp at this
    have hsum : (h.counts.sum : Int) = h.count := by rw [w.total]
    obtain ⟨a, ha⟩ := pctIdx_some 0 t 0 hcs (by omega)
    obtain ⟨b, hb⟩ := pctIdx_some 0 t' 0 hcs (by omega)
    have hab := pctIdx_mono htt ha hb
    rw [ha, hb]
    exact bucketAt_mono hs hne hab

def qToRat (q : Q) : Rat := (q.num : Rat) / (q.den : Rat)

def qLt (a b : Q) : Bool := decide (0 < a.den) && decide (0 < b.den) && decide (a.num * (b.den : Int) < b.num * (a.den : Int))

def qSorted : List Q → Bool
  | [] => true
  | a :: rest => rest.all (qLt a) && qSorted rest

theorem qToRat_lt {a b : Q} (h : qLt a b = true) : qToRat a < qToRat b := by
  simp only [qLt, Bool.and_eq_true, decide_eq_true_eq] at h
  obtain ⟨⟨ha, hb⟩, hlt⟩ := h
  have ha' : (0 : Rat) < (a.den : Rat) := Rat.natCast_pos.mpr ha
  have hb' : (0 : Rat) < (b.den : Rat) := Rat.natCast_pos.mpr hb
  unfold qToRat
  rw [Rat.div_lt_iff ha', Rat.div_def, Rat.mul_assoc, Rat.mul_comm _ (a.den : Rat), ← Rat.mul_assoc, ← Rat.div_def,
    Rat.lt_div_iff hb']
  have : ((a.num * (b.den : Int) : Int) : Rat) < ((b.num * (a.den : Int) : Int) : Rat) := Rat.intCast_lt_intCast.mpr hlt
  simpa [Rat.intCast_mul, Rat.intCast_natCast] using this

theorem qSorted_pairwise : ∀ l : List Q, qSorted l = true → (l.map qToRat).Pairwise (· < ·)
  | [], _ => List.Pairwise.nil
  | a :: rest, h => by
    simp only [qSorted, Bool.and_eq_true, List.all_eq_true] at h
    simp only [List.map_cons, List.pairwise_cons, List.mem_map]
    refine ⟨?_, qSorted_pairwise rest h.2⟩
    rintro _ ⟨b, hb, rfl⟩
    exact qToRat_lt (h.1 b hb)

end Wtf.Metrics
