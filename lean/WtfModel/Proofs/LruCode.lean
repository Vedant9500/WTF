import WtfModel.Gen.LruCode
import WtfModel.Proofs.Lru
/-
  Running the translated method bodies of lru_cache.go (`Gen/LruCode.lean`) on the abstract state IS the hand-written model
  (`Model/Lru.lean`), for every state, time and argument.  Core Lean only.
-/
namespace Wtf.LruProg
open Wtf.Lru

variable {κ ν : Type} [DecidableEq κ]

-- running a translated body is unfolding the interpreter of Model/LruProg.lean
attribute [local simp] exec execBasic execBasics evalCond Sel.entry? Sel.map retOut

theorem get_eq (s : State κ ν) (now : Int) (k : κ) :
    call Gen.LruCode.get s { now := now, key := some k } = ((Lru.get s now k).1, Out.val (Lru.get s now k).2) := by
  unfold call Gen.LruCode.get Lru.get
  cases hf : find? k s.entries with
  | none => simp [hf]
  | some e =>
    have hk : e.key = k := (find?_some hf).2
    cases hx : expired s.ttl now e with
    | true => simp [hf, hx, hk]
    | false => simp [hf, hx, hk]

theorem put_eq (s : State κ ν) (now : Int) (k : κ) (v : ν) :
    call Gen.LruCode.put s { now := now, key := some k, value := some v } = (Lru.put s now k v, Out.unit) := by
  unfold call Gen.LruCode.put Lru.put
  cases hf : find? k s.entries with
  | some e =>
    have hk : e.key = k := (find?_some hf).2
    simp [hf, hk]
  | none =>
    by_cases hc : s.cap < s.entries.length + 1
    · simp [hf, hc, evictOldestSem, List.getLast?_cons]
    · simp [hf, hc]

theorem delete_eq (s : State κ ν) (now : Int) (k : κ) :
    call Gen.LruCode.delete s { now := now, key := some k } = ((Lru.delete s k).1, Out.bool (Lru.delete s k).2) := by
  unfold call Gen.LruCode.delete Lru.delete
  cases hf : find? k s.entries with
  | some e =>
    have hk : e.key = k := (find?_some hf).2
    simp [hf, hk]
  | none => simp [hf]

theorem clear_eq (s : State κ ν) (now : Int) :
    call Gen.LruCode.clear s { now := now } = (Lru.clear s, Out.unit) := by
  simp [call, Gen.LruCode.clear, Lru.clear]

theorem cleanup_eq (s : State κ ν) (now : Int) :
    call Gen.LruCode.cleanupExpired s { now := now } = ((Lru.cleanup s now).1, Out.nat (Lru.cleanup s now).2) := by
  unfold call Gen.LruCode.cleanupExpired Lru.cleanup
  by_cases ht : s.ttl ≤ 0
  · simp [ht]
  · simp [ht]

theorem size_eq (s : State κ ν) (now : Int) :
    call Gen.LruCode.size s { now := now } = (s, Out.nat s.entries.length) := by
  simp [call, Gen.LruCode.size]

/-- the translated body of evictOldest means what the call statement means -/
theorem evictOldest_eq (s : State κ ν) (now : Int) :
    (call Gen.LruCode.evictOldest s ({ now := now } : Args κ ν)).1 = evictOldestSem s := by
  unfold call Gen.LruCode.evictOldest evictOldestSem
  cases hl : s.entries.getLast? with
  | none => simp [hl]
  | some e => simp [hl]

/-- one step of the model is the translated method for that operation (Stats and Keys only read fields) -/
theorem step_regenerated (s : State κ ν) (now : Int) :
    (∀ k, Lru.step s now (.get k) = call Gen.LruCode.get s { now := now, key := some k }) ∧
    (∀ k v, Lru.step s now (.put k v) = call Gen.LruCode.put s { now := now, key := some k, value := some v }) ∧
    (∀ k, Lru.step s now (.delete k) = call Gen.LruCode.delete s { now := now, key := some k }) ∧
    Lru.step s now .clear = call Gen.LruCode.clear s { now := now } ∧
    Lru.step s now .cleanup = call Gen.LruCode.cleanupExpired s { now := now } ∧
    Lru.step s now .size = call Gen.LruCode.size s { now := now } := by
  refine ⟨fun k => ?_, fun k v => ?_, fun k => ?_, ?_, ?_, ?_⟩
  · rw [get_eq]; rfl
  · rw [put_eq]; rfl
  · rw [delete_eq]; rfl
  · rw [clear_eq]; rfl
  · rw [cleanup_eq]; rfl
  · rw [size_eq]; rfl

end Wtf.LruProg
