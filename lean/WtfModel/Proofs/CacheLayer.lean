import WtfModel.Model.CacheLayer
import WtfModel.Proofs.LruHist

/-! The cache layer (C05).  A key that covers every option field the engine reads determines the engine's answer (`key_sound`);
    every cached pair is (key of some request, the engine's answer to it on the current database), so a hit returns what the
    engine would (`search_specOn`, along a history `run_specOn`).  Every fact about a cached search goes through the one case
    analysis `searchK_cases`.  Core Lean only. -/

namespace Wtf.CacheLayer
set_option linter.unusedSectionVars false

variable {Db Ans κ : Type} [DecidableEq κ]
variable {E : Env Db Ans κ} {sh shC shM : Shape} {s : State κ Db Ans} {reads : List String} {utf8 : Bytes → Bytes}

/-- The identification `≈` on option values that the key text makes: same JSON rendering, or both "empty" in
    the sense of `omitempty` (0, false, ±0.0, "", nil / empty slice or map), or -- in the Go-syntax text used
    when a NaN / Inf is present -- equal up to the payload and sign of NaNs. -/
def Equiv (utf8 : Bytes → Bytes) (v v' : Val) : Prop :=
  v.json utf8 = v'.json utf8 ∨ (v.isEmpty = true ∧ v'.isEmpty = true) ∨ v.goView = v'.goView

/-- The engine's answer depends on the options only through the fields in `reads`, up to `≈`.
    (Justified outside Lean: `reads` is the regenerated set of `options.X` selectors under SearchUniversal, and
    the engine treats the `≈`-identified values alike -- `len(x) == 0`, `range`, `> 0` tests; exercised by the
    correspondence runs and the monitor.) -/
def EngineReadsOnly (E : Env Db Ans κ) (reads : List String) : Prop :=
  ∀ db q o o', (∀ f ∈ reads, Equiv E.utf8 (o f) (o' f)) → E.answer db q o = E.answer db q o'

/-- The engine normalises its query on entry exactly as the key does. -/
def EngineNormalises (E : Env Db Ans κ) : Prop :=
  ∀ db q o, E.answer db q o = E.answer db (E.normQ q) o

/-- every field in `reads` is copied by the conversion literal into some key field -/
def covers (sh : Shape) (reads : List String) : Bool :=
  reads.all (fun f => sh.keyFields.any (fun kf => sh.site.lookup kf.1 == some f))

theorem covers_iff :
    covers sh reads = true ↔ ∀ f ∈ reads, ∃ kf ∈ sh.keyFields, sh.site.lookup kf.1 = some f := by
  simp only [covers, List.all_eq_true, List.any_eq_true, beq_iff_eq]

theorem covers_fieldVal (hc : covers sh reads = true) {f : String} (hf : f ∈ reads) :
    ∃ kf ∈ sh.keyFields, ∀ o, fieldVal sh o kf = o f := by
  obtain ⟨kf, hkf, hl⟩ := covers_iff.mp hc f hf
  exact ⟨kf, hkf, fun o => by simp only [fieldVal, hl]⟩

theorem jsonView_equiv {b : Bool} {v v' : Val}
    (h : jsonView utf8 b v = jsonView utf8 b v') : Equiv utf8 v v' := by
  unfold jsonView at h
  split at h <;> split at h
  · rename_i h1 h2
    rw [Bool.and_eq_true] at h1 h2
    exact .inr (.inl ⟨h1.2, h2.2⟩)
  · cases h
  · cases h
  · exact .inl (Option.some.inj h)

theorem proj_sound (hc : covers sh reads = true)
    {o o' : Opts} (h : proj utf8 sh o = proj utf8 sh o') : ∀ f ∈ reads, Equiv utf8 (o f) (o' f) := by
  intro f hf
  obtain ⟨kf, hkf, hv⟩ := covers_fieldVal hc hf
  have h' := List.map_inj_left.mp h kf hkf
  simp only [Prod.mk.injEq, true_and, hv] at h'
  exact jsonView_equiv h'

theorem goProj_sound (hc : covers sh reads = true) (utf8 : Bytes → Bytes)
    {o o' : Opts} (h : goProj sh o = goProj sh o') : ∀ f ∈ reads, Equiv utf8 (o f) (o' f) := by
  intro f hf
  obtain ⟨kf, hkf, hv⟩ := covers_fieldVal hc hf
  have h' := List.map_inj_left.mp h kf hkf
  simp only [Prod.mk.injEq, true_and, hv] at h'
  exact .inr (.inr h')

theorem keyOf_eq (hc : covers sh reads = true)
    {q q' : Query} {o o' : Opts} (h : keyOf E sh q o = keyOf E sh q' o') :
    E.normQ q = E.normQ q' ∧ ∀ f ∈ reads, Equiv E.utf8 (o f) (o' f) := by
  unfold keyOf at h
  split at h <;> split at h
  · injection h with h1 h2
    exact ⟨h1, proj_sound hc h2⟩
  · cases h
  · cases h
  · injection h with h1 h2
    exact ⟨h1, goProj_sound hc E.utf8 h2⟩

theorem key_sound (hc : covers sh reads = true) (hr : EngineReadsOnly E reads) (hn : EngineNormalises E)
    {q q' : Query} {o o' : Opts}
    (h : keyOf E sh q o = keyOf E sh q' o') (db : Db) : E.answer db q o = E.answer db q' o' := by
  obtain ⟨h1, h2⟩ := keyOf_eq hc h
  rw [hn db q o, h1, ← hn db q' o]
  exact hr db q' o o' h2

theorem zeroOf_marshalOK (t : String) : (zeroOf t).marshalOK = true := by
  have h0 : finiteBits 0 = true := by decide
  simp only [zeroOf, apply_ite Val.marshalOK]
  simp only [Val.marshalOK, h0, Option.getD_none, List.all_nil, ite_self]

theorem marshalOK_of_finite (sh : Shape) {o : Opts} (h : ∀ f, (o f).marshalOK = true) : marshalOK sh o = true := by
  unfold marshalOK
  rw [List.all_eq_true]
  intro kf _
  unfold fieldVal
  split
  · exact h _
  · exact zeroOf_marshalOK _

structure SameCtl (s s' : State κ Db Ans) : Prop where
  db : s'.db = s.db
  mgrEnabled : s'.mgrEnabled = s.mgrEnabled
  cacheEnabled : s'.cacheEnabled = s.cacheEnabled

theorem SameCtl.refl (s : State κ Db Ans) : SameCtl s s := ⟨rfl, rfl, rfl⟩

theorem SameCtl.trans {s s' s'' : State κ Db Ans} (h : SameCtl s s') (h' : SameCtl s' s'') : SameCtl s s'' :=
  ⟨h'.db.trans h.db, h'.mgrEnabled.trans h.mgrEnabled, h'.cacheEnabled.trans h.cacheEnabled⟩

theorem SameCtl.flags {s s' : State κ Db Ans} (c : SameCtl s s') (h : s.mgrEnabled = s.cacheEnabled) :
    s'.mgrEnabled = s'.cacheEnabled :=
  c.mgrEnabled.trans (h.trans c.cacheEnabled.symm)

theorem scGet_ctl (s : State κ Db Ans) (k : κ) : SameCtl s (scGet s k).1 := by
  unfold scGet
  split <;> exact ⟨rfl, rfl, rfl⟩

theorem scPut_ctl (E : Env Db Ans κ) (s : State κ Db Ans) (k : κ) (a : Ans) : SameCtl s (scPut E s k a) := by
  unfold scPut
  split <;> exact ⟨rfl, rfl, rfl⟩

/-- `scPut` itself declines an empty answer (so the `len(results) > 0` test the search makes before its Put changes nothing) -/
theorem scPut_of_isEmpty (E : Env Db Ans κ) (s : State κ Db Ans) (k : κ) {a : Ans} (h : E.isEmpty a = true) :
    scPut E s k a = s := by
  simp only [scPut, h, Bool.or_true, if_true]

theorem searchK_cases {motive : State κ Db Ans × Ans → Prop} {k : κ} {q : Query} {o : Opts}
    (off : s.mgrEnabled = false → motive (s, E.answer s.db q o))
    (hit : s.mgrEnabled = true → ∀ v, (scGet s k).2 = some v → motive ((scGet s k).1, v))
    (miss : s.mgrEnabled = true → (scGet s k).2 = none →
      motive (scPut E (scGet s k).1 k (E.answer (scGet s k).1.db q o), E.answer (scGet s k).1.db q o)) :
    motive (searchK E s k q o) := by
  simp only [searchK]
  cases hm : s.mgrEnabled with
  | false => exact off hm
  | true =>
    cases hv : (scGet s k).2 with
    | some v => exact hit hm v hv
    | none =>
      cases he : E.isEmpty (E.answer (scGet s k).1.db q o) with
      | false => exact miss hm hv
      | true => exact scPut_of_isEmpty E _ k he ▸ miss hm hv

theorem search_ctl (E : Env Db Ans κ) (sh : Shape) (s : State κ Db Ans) (q : Query) (o : Opts) :
    SameCtl s (search E sh s q o).1 :=
  searchK_cases (motive := fun r => SameCtl s r.1) (fun _ => .refl s) (fun _ _ _ => scGet_ctl s _)
    (fun _ _ => (scGet_ctl s _).trans (scPut_ctl E _ _ _))

theorem monitoredSearch_ctl (E : Env Db Ans κ) (shC shM : Shape) (s : State κ Db Ans) (q : Query) (o : Opts) :
    SameCtl s (monitoredSearch E shC shM s q o).1 :=
  (scGet_ctl s _).trans (search_ctl E shC _ q o)

/-! ### The invariant

  Stated relative to a predicate `P` on requests, so that the injectivity of the key function is needed only on the keys of
  requests satisfying `P` (C05b uses `P` = "well-typed Go value"); `Inv` is the instance `P := fun _ => True`. -/

def Inv (E : Env Db Ans κ) (sh : Shape) (s : State κ Db Ans) : Prop :=
  ∀ e ∈ s.lru.entries, ∃ q o, e.key = E.enc (keyOf E sh q o) ∧ e.val = E.answer s.db q o

def InjOn (E : Env Db Ans κ) (sh : Shape) (P : Opts → Prop) : Prop :=
  ∀ q o q' o', P o → P o' → E.enc (keyOf E sh q o) = E.enc (keyOf E sh q' o') → keyOf E sh q o = keyOf E sh q' o'

theorem InjOn.of_injective {E : Env Db Ans κ} (hinj : ∀ a b, E.enc a = E.enc b → a = b) (sh : Shape) (P : Opts → Prop) :
    InjOn E sh P := fun _ _ _ _ _ _ h => hinj _ _ h

def InvOn (P : Opts → Prop) (E : Env Db Ans κ) (sh : Shape) (s : State κ Db Ans) : Prop :=
  ∀ e ∈ s.lru.entries, ∃ q o, P o ∧ e.key = E.enc (keyOf E sh q o) ∧ e.val = E.answer s.db q o

def OpOn (P : Opts → Prop) : Op Db → Prop
  | .search _ o => P o
  | .monitoredSearch _ o => P o
  | _ => True

theorem inv_iff_invOn :
    Inv E sh s ↔ InvOn (fun _ => True) E sh s := by
  simp only [Inv, InvOn, true_and]

theorem OpOn.trivial (op : Op Db) : OpOn (fun _ => True) op := by
  cases op <;> exact True.intro

variable {P : Opts → Prop}

theorem InvOn.of_nil (h : s.lru.entries = []) : InvOn P E sh s := by
  intro e he
  rw [h] at he
  cases he

theorem scGet_invOn (h : InvOn P E sh s) (k : κ) :
    InvOn P E sh (scGet s k).1 := by
  unfold scGet
  split
  · exact h
  · intro e he
    obtain ⟨e0, he0, heq⟩ := Lru.mem_get he
    rw [heq]
    exact h e0 he0

theorem scGet_someOn (h : InvOn P E sh s) {k : κ} {v : Ans}
    (hv : (scGet s k).2 = some v) : ∃ q o, P o ∧ k = E.enc (keyOf E sh q o) ∧ v = E.answer s.db q o := by
  unfold scGet at hv
  split at hv
  · cases hv
  · obtain ⟨e, he, rfl, rfl, _⟩ := Lru.get_some hv
    exact h e he

theorem scPut_invOn (h : InvOn P E sh s) (q : Query) (o : Opts)
    (hp : P o) : InvOn P E sh (scPut E s (E.enc (keyOf E sh q o)) (E.answer s.db q o)) := by
  unfold scPut
  split
  · exact h
  · intro e he
    rcases Lru.mem_put he with ⟨he0, _⟩ | ⟨hk, hv, _⟩
    · exact h e he0
    · exact ⟨q, o, hp, hk, hv⟩

theorem search_invOn (h : InvOn P E sh s) (q : Query) (o : Opts)
    (hp : P o) : InvOn P E sh (search E sh s q o).1 :=
  searchK_cases (motive := fun r => InvOn P E sh r.1) (fun _ => h) (fun _ _ _ => scGet_invOn h _)
    (fun _ _ => scPut_invOn (scGet_invOn h _) q o hp)

theorem search_specOn (hinj : InjOn E sh P)
    (hc : covers sh reads = true) (hr : EngineReadsOnly E reads) (hn : EngineNormalises E)
    (h : InvOn P E sh s) (q : Query) (o : Opts) (hp : P o) :
    (search E sh s q o).2 = E.answer s.db q o := by
  refine searchK_cases (motive := fun r => r.2 = E.answer s.db q o) (fun _ => rfl) (fun _ v hv => ?_)
    (fun _ _ => congrArg (E.answer · q o) (scGet_ctl s _).db)
  -- a hit was stored for a request with the same key, hence the same answer
  obtain ⟨q', o', hp', hk, hval⟩ := scGet_someOn h hv
  exact hval.trans (key_sound hc hr hn (hinj _ _ _ _ hp hp' hk) s.db).symm

theorem monitoredSearch_specOn (hinj : InjOn E shC P)
    (hc : covers shC reads = true) (hr : EngineReadsOnly E reads) (hn : EngineNormalises E)
    (h : InvOn P E shC s) (q : Query) (o : Opts) (hp : P o) :
    (monitoredSearch E shC shM s q o).2 = E.answer s.db q o := by
  unfold monitoredSearch
  rw [search_specOn hinj hc hr hn (scGet_invOn h _) q o hp, (scGet_ctl s _).db]

theorem step_invOn (h : InvOn P E shC s) (op : Op Db)
    (hop : OpOn P op) : InvOn P E shC (step E shC shM s op).1 := by
  cases op with
  | search q o => exact search_invOn h q o hop
  | monitoredSearch q o => exact search_invOn (scGet_invOn h _) q o hop
  | invalidate => exact .of_nil rfl
  | enable b => exact h
  | cleanup => exact fun e he => h e (Lru.mem_cleanup he)
  | update c => exact .of_nil rfl
  | advance dt => exact h

theorem init_invOn (P : Opts → Prop) (E : Env Db Ans κ) (sh : Shape) (d : Nat) (cap ttl : Int) (db : Db) :
    InvOn P E sh (init d cap ttl db : State κ Db Ans) :=
  .of_nil rfl

theorem run_invOn (h : InvOn P E shC s) (hist : List (Op Db))
    (hh : ∀ op ∈ hist, OpOn P op) : InvOn P E shC (final E shC shM s hist) := by
  induction hist generalizing s with
  | nil => exact h
  | cons op rest ih =>
    exact ih (step_invOn h op (hh op List.mem_cons_self)) (fun x hx => hh x (List.mem_cons_of_mem op hx))

theorem step_inv {E : Env Db Ans κ} {shC shM : Shape} {s : State κ Db Ans} (h : Inv E shC s) (op : Op Db) :
    Inv E shC (step E shC shM s op).1 :=
  inv_iff_invOn.mpr (step_invOn (inv_iff_invOn.mp h) op (OpOn.trivial op))

theorem init_inv (E : Env Db Ans κ) (sh : Shape) (d : Nat) (cap ttl : Int) (db : Db) :
    Inv E sh (init d cap ttl db : State κ Db Ans) :=
  inv_iff_invOn.mpr (init_invOn _ E sh d cap ttl db)

theorem run_inv {E : Env Db Ans κ} {shC shM : Shape} {s : State κ Db Ans} (h : Inv E shC s) (hist : List (Op Db)) :
    Inv E shC (final E shC shM s hist) :=
  inv_iff_invOn.mpr (run_invOn (inv_iff_invOn.mp h) hist (fun op _ => OpOn.trivial op))

def dbAfter (db : Db) : List (Op Db) → Db
  | [] => db
  | .update c :: rest => dbAfter c rest
  | .search _ _ :: rest => dbAfter db rest
  | .monitoredSearch _ _ :: rest => dbAfter db rest
  | .invalidate :: rest => dbAfter db rest
  | .enable _ :: rest => dbAfter db rest
  | .cleanup :: rest => dbAfter db rest
  | .advance _ :: rest => dbAfter db rest

theorem step_db (E : Env Db Ans κ) (shC shM : Shape) (s : State κ Db Ans) (op : Op Db) :
    (step E shC shM s op).1.db = dbAfter s.db [op] := by
  cases op with
  | search q o => exact (search_ctl E shC s q o).db
  | monitoredSearch q o => exact (monitoredSearch_ctl E shC shM s q o).db
  | invalidate => rfl
  | enable b => rfl
  | cleanup => rfl
  | update c => rfl
  | advance dt => rfl

theorem dbAfter_cons (db : Db) (op : Op Db) (rest : List (Op Db)) :
    dbAfter db (op :: rest) = dbAfter (dbAfter db [op]) rest := by
  cases op <;> rfl

theorem final_db (E : Env Db Ans κ) (shC shM : Shape) (s : State κ Db Ans) (hist : List (Op Db)) :
    (final E shC shM s hist).db = dbAfter s.db hist := by
  induction hist generalizing s with
  | nil => rfl
  | cons op rest ih =>
    rw [dbAfter_cons, ← step_db E shC shM s op]
    exact ih (step E shC shM s op).1

/-- the manager switch and the cache switch always agree (only `enable` writes them, both at once) -/
theorem step_flags (E : Env Db Ans κ) (shC shM : Shape) (s : State κ Db Ans) (op : Op Db)
    (h : s.mgrEnabled = s.cacheEnabled) : (step E shC shM s op).1.mgrEnabled = (step E shC shM s op).1.cacheEnabled := by
  cases op with
  | search q o => exact (search_ctl E shC s q o).flags h
  | monitoredSearch q o => exact (monitoredSearch_ctl E shC shM s q o).flags h
  | invalidate => exact h
  | enable b => rfl
  | cleanup => exact h
  | update c => exact h
  | advance dt => exact h

theorem final_flags (E : Env Db Ans κ) (shC shM : Shape) (s : State κ Db Ans) (hist : List (Op Db))
    (h : s.mgrEnabled = s.cacheEnabled) :
    (final E shC shM s hist).mgrEnabled = (final E shC shM s hist).cacheEnabled := by
  induction hist generalizing s with
  | nil => exact h
  | cons op rest ih => exact ih (s := (step E shC shM s op).1) (step_flags E shC shM s op h)

theorem run_out (E : Env Db Ans κ) (shC shM : Shape) (s : State κ Db Ans) (hist : List (Op Db)) (i : Nat)
    (op : Op Db) (h : hist[i]? = some op) :
    (run E shC shM s hist).2[i]? = some (step E shC shM (final E shC shM s (hist.take i)) op).2 := by
  induction hist generalizing s i with
  | nil => cases h
  | cons a rest ih =>
    cases i with
    | zero => cases h; rfl
    | succ j => exact ih (step E shC shM s a).1 j h

theorem run_specOn (hinj : InjOn E shC P)
    (hc : covers shC reads = true) (hr : EngineReadsOnly E reads) (hn : EngineNormalises E)
    (h : InvOn P E shC s) (hist : List (Op Db)) (hh : ∀ op ∈ hist, OpOn P op)
    (i : Nat) (q : Query) (o : Opts)
    (hop : hist[i]? = some (.search q o) ∨ hist[i]? = some (.monitoredSearch q o)) :
    (run E shC shM s hist).2[i]? = some (.ans (E.answer (dbAfter s.db (hist.take i)) q o)) := by
  have hi : InvOn P E shC (final E shC shM s (hist.take i)) :=
    run_invOn h _ (fun op hm => hh op (List.mem_of_mem_take hm))
  cases hop with
  | inl hop =>
    have hp : P o := hh _ (List.mem_of_getElem? hop)
    rw [run_out E shC shM s hist i _ hop, ← final_db E shC shM s (hist.take i)]
    exact congrArg (fun a => some (Out.ans a)) (search_specOn hinj hc hr hn hi q o hp)
  | inr hop =>
    have hp : P o := hh _ (List.mem_of_getElem? hop)
    rw [run_out E shC shM s hist i _ hop, ← final_db E shC shM s (hist.take i)]
    exact congrArg (fun a => some (Out.ans a)) (monitoredSearch_specOn hinj hc hr hn hi q o hp)

/-- the Go-syntax view determines emptiness (it only rewrites NaN bit patterns, and no NaN is ±0.0) -/
theorem isEmpty_of_goView {v v' : Val} (h : v.goView = v'.goView) : v.isEmpty = v'.isEmpty := by
  have key : ∀ w : Val, w.goView.isEmpty = w.isEmpty := by
    intro w
    cases w with
    | int i => rfl
    | bool b => rfl
    | float b =>
      simp only [Val.goView, Val.isEmpty, canonNaN]
      split
      · rename_i hn
        have h0 : b ≠ 0 := by intro h; subst h; revert hn; decide
        have h1 : b ≠ 2 ^ 63 := by intro h; subst h; revert hn; decide
        simp [h0, h1]
      · rfl
    | str s => rfl
    | strs l => rfl
    | boosts m => cases m <;> simp [Val.goView, Val.isEmpty]
  rw [← key v, ← key v', h]

theorem Val.json_id (v : Val) : v.json id = v := by
  cases v with
  | int i => rfl
  | bool b => rfl
  | float b => rfl
  | str s => rfl
  | strs l => cases l <;> simp [Val.json]
  | boosts m => cases m <;> simp [Val.json]

end Wtf.CacheLayer
