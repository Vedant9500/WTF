import WtfModel.Proofs.KeyJson
import WtfModel.Proofs.NormQ
/-!
  The normaliser of the model (`Wtf.NormQ.normQ`, i.e. strings.ToLower ∘ strings.TrimSpace over a table of Unicode facts)
  always returns valid UTF-8, for every table: `NormValid` holds for it.  Core Lean only.
-/
namespace Wtf.KeyJson
open Utf8 GoStr

/-- utf8.AppendRune writes a sequence that utf8.DecodeRune accepts with its full width -/
theorem coerceAux_encodeRune (r : Nat) (rest : Bytes) :
    coerceAux 0 (encodeRune r ++ rest) = encodeRune r ++ coerceAux 0 rest := by
  obtain ⟨c, hc, -, he⟩ := encodeRune_eq_scalar r
  rw [he]
  have hd := decodeRune_encodeRune hc rest
  match hb : encodeRune c, encodeRune_ne_nil c with
  | b :: t, _ =>
    rw [hb] at hd
    refine coerceAux_rune b t rest c hd ?_
    -- U+FFFD itself is three bytes long
    rintro ⟨rfl, ht⟩
    have h3 : (encodeRune runeError).length = 3 := by unfold runeError; decide
    rw [hb, List.length_cons, ht] at h3
    exact absurd h3 (by decide)

theorem coerceAux_flatten (rs : List Nat) : coerceAux 0 (rs.map encodeRune).flatten = (rs.map encodeRune).flatten := by
  induction rs with
  | nil => rfl
  | cons r t ih => simp only [List.map_cons, List.flatten_cons, coerceAux_encodeRune, ih]

theorem coerce_ascii (s : Bytes) (h : s.all (· < 0x80) = true) : coerce s = s := by
  unfold coerce
  induction s with
  | nil => rfl
  | cons b t ih =>
    simp only [List.all_cons, Bool.and_eq_true, decide_eq_true_eq] at h
    have hb : b.toNat < 0x80 := UInt8.lt_iff_toNat_lt.mp h.1
    have := coerceAux_rune b [] t b.toNat (decodeRune_ascii b t hb) fun hh => by
      rw [hh.1] at hb; exact absurd hb (by decide)
    rw [List.nil_append, List.nil_append] at this
    rw [this, ih h.2]

/-- strings.ToLower returns valid UTF-8: its output is a sequence of utf8.AppendRune outputs (the all-ASCII fast path
    included, `toLower_eq_gen`) -/
theorem coerce_toLower (ri : RuneInfo) (s : Bytes) : coerce (toLower ri s) = toLower ri s := by
  rw [toLower_eq_gen, toLowerGen_runes]
  exact coerceAux_flatten _

/-- `NormValid` for the model's normaliser, whatever the table of Unicode facts -/
theorem coerce_normQ (ri : RuneInfo) (q : Bytes) : coerce (NormQ.normQ ri q) = NormQ.normQ ri q :=
  coerce_toLower ri _

end Wtf.KeyJson
