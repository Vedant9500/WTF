import WtfModel.Proofs.GoSort

/-!
  The tie order of Go's `sort.Stable` under the fuzzy library's NON-strict `Less` (`Score >=`), in closed form.  The algorithm
  cannot tell `less` from `R x y = x before y strictly, or x, y equivalent and x later in the input` (`goStable_ordered`), so
  equal scores come out in REVERSE input order, and the output is the only permutation in that order — whatever the block
  size and the way the runs are cut and merged, as long as every comparison has the later element first.
-/
namespace Wtf.GoSort

/-- higher score first; equal scores: higher index first -/
def fuzzyLex (a b : Nat × Int) : Bool := decide (a.2 > b.2 ∨ (a.2 = b.2 ∧ a.1 ≥ b.1))

theorem fuzzyLex_totalPreorder : TotalPreorder fuzzyLex := by
  constructor
  · intro x y
    simp only [fuzzyLex, gt_iff_lt, ge_iff_le, decide_eq_true_eq]
    omega
  · intro x y z
    simp only [fuzzyLex, gt_iff_lt, ge_iff_le, decide_eq_true_eq]
    omega

/-- **the fuzzy library's final sort, in closed form**: on matches in index order (as `FindFromNoSort` produces them) the
    result of `sort.Stable` with `Less = Score >=` is ordered by score, best first, and equal scores by index, HIGHEST
    first -/
theorem fuzzyStable_lex (ms : List (Nat × Int)) (h : (ms.map (·.1)).Pairwise (· < ·)) :
    (fuzzyStable ms).Pairwise (fun a b => a.2 > b.2 ∨ (a.2 = b.2 ∧ a.1 > b.1)) := by
  have h1 := goStable_ordered (fun a b : Nat × Int => decide (a.2 ≥ b.2)) fuzzyLex (fun x y => x.1 < y.1) fuzzyLex_totalPreorder
    (by
      intro x y hxy
      simp only [fuzzyLex, ge_iff_le, gt_iff_lt, decide_eq_decide]
      omega)
    ms (by rw [List.pairwise_map] at h; exact h)
  -- indexes stay distinct
  have hnd0 : (ms.map (·.1)).Nodup := h.imp (fun hab => Nat.ne_of_lt hab)
  have hnd : ((fuzzyStable ms).map (·.1)).Nodup := ((fuzzyStable_perm ms).map (·.1)).nodup_iff.mpr hnd0
  have h2 : (fuzzyStable ms).Pairwise (fun a b => a.1 ≠ b.1) := by
    rw [List.Nodup, List.pairwise_map] at hnd; exact hnd
  refine (h1.and h2).imp ?_
  intro a b hab
  obtain ⟨hab1, hab2⟩ := hab
  simp only [fuzzyLex, gt_iff_lt, ge_iff_le, decide_eq_true_eq] at hab1
  omega

theorem fuzzyStable_unique (ms : List (Nat × Int)) (h : (ms.map (·.1)).Pairwise (· < ·)) (l : List (Nat × Int))
    (hp : l.Perm ms) (hs : l.Pairwise (fun a b => a.2 > b.2 ∨ (a.2 = b.2 ∧ a.1 > b.1))) : l = fuzzyStable ms :=
  List.Perm.eq_of_pairwise (fun a b _ _ h1 h2 => by exfalso; omega) hs (fuzzyStable_lex ms h)
    (hp.trans (fuzzyStable_perm ms).symm)

end Wtf.GoSort
